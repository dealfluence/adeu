import AdeuModel.Lemmas.Trim
import AdeuModel.Model.Heuristic
import AdeuModel.Lemmas.Mapper
/-
The searched path seen from the text: what `heuristicDirect` hands to the indexed step (`effectiveEdit`), that the
text it searches is the text the reader extracts (`spans_text_eq_extractText`), and in which order the views are tried
(`locate_*`).
-/
namespace Adeu.Doc
open Adeu

/-- what `heuristicDirect` hands to the indexed step, as a pure function of the matched text: `none` = nothing to do
(new text equals the matched text, or nothing left after trimming); otherwise (start, length of the range to replace,
replacement text) -/
def effectiveEdit (text : Str) (start len : Nat) (new : Str) : Option (Nat × Nat × Str) :=
  let actual := (text.drop start).take len
  if actual = new then none
  else if actual.isPrefixOf new then some (start + len, 0, new.drop actual.length)
  else
    let pq := Trim.trim Trim.pyIsSpace actual new
    let ft := (actual.take (actual.length - pq.2)).drop pq.1
    let fn := (new.take (new.length - pq.2)).drop pq.1
    if ft.isEmpty && fn.isEmpty then none else some (start + pq.1, ft.length, fn)

/-- What `effectiveEdit` computes on a match `A` lying between `X` and `Y`: it strips a common front `P` and a common
back `S` from the matched text and the new text; nothing to do if nothing remains, otherwise the edit of the remaining
piece where it lies. -/
theorem effectiveEdit_spec (X A Y new : Str) :
    ∃ P T N S, A = P ++ T ++ S ∧ new = P ++ N ++ S ∧
      effectiveEdit (X ++ A ++ Y) X.length A.length new =
        if T = [] ∧ N = [] then none else some (X.length + P.length, T.length, N) := by
  rw [effectiveEdit, List.append_assoc, List.drop_left' rfl, List.take_left' rfl]
  by_cases h : A = new
  · exact ⟨A, [], [], [], by simp, by simp [h], by simp [h]⟩
  by_cases hpre : A.isPrefixOf new = true
  · obtain ⟨r, rfl⟩ := List.isPrefixOf_iff_prefix.mp hpre
    have : r ≠ [] := fun hr => h (by simp [hr])
    exact ⟨A, [], r, [], by simp, by simp, by simp [this]⟩
  · obtain ⟨P, T, N, S, hA, hn, hpq⟩ := Trim.trim_common Trim.pyIsSpace A new
    simp only [h, hpre, if_false, hpq]
    subst hA hn
    exact ⟨P, T, N, S, rfl, rfl, by simp only [mid_split, Bool.and_eq_true, List.isEmpty_iff, Bool.false_eq_true, if_false]⟩

/-- Trimming the common context, or turning an extension into an insertion, never changes what the edit means on
the text: replacing the effective range by the effective text gives exactly the text with the *whole* matched range
replaced by the *whole* new text — for all texts, all in-bounds matches, all new texts. -/
theorem effectiveEdit_same_text (text : Str) (start len : Nat) (new : Str) (hb : start + len ≤ text.length) :
    (match effectiveEdit text start len new with
     | none => text
     | some (s', l', n') => text.take s' ++ n' ++ text.drop (s' + l')) =
    text.take start ++ new ++ text.drop (start + len) := by
  have hs : (text.take start).length = start := List.length_take_of_le (Nat.le_trans (Nat.le_add_right ..) hb)
  have hl : ((text.drop start).take len).length = len :=
    List.length_take_of_le (List.length_drop ▸ Nat.le_sub_of_add_le' hb)
  have hsplit : text = text.take start ++ (text.drop start).take len ++ text.drop (start + len) := by
    rw [List.append_assoc, ← List.drop_drop, List.take_append_drop, List.take_append_drop]
  generalize text.take start = X at hs hsplit
  generalize (text.drop start).take len = A at hl hsplit
  generalize text.drop (start + len) = Y at hsplit
  subst hs hl hsplit
  obtain ⟨P, T, N, S, rfl, rfl, h⟩ := effectiveEdit_spec X A Y new
  rw [h]
  by_cases h0 : T = [] ∧ N = []
  · rw [if_pos h0, h0.1, h0.2]
  · rw [if_neg h0]
    simpa only [List.append_assoc, List.length_append] using replace_mid (X ++ P) T (S ++ Y) N

/-- `heuristicDirect` is: compute the effective edit from the matched text, then hand it to the indexed step (as an
insertion when nothing is left to replace; through the rewrite "inside a pending insertion = replace that insertion"
when the changed part, or the insertion point, lies inside one) -/
theorem heuristicDirect_eq (s : Sess) (m : HMatch) (e : HEdit) :
    heuristicDirect s m e =
      match effectiveEdit (ospansText (s.spans m.clean)) m.start m.len e.new with
      | none => (s, true)
      | some (st, ln, nw) =>
        if ln = 0 then
          match nestedInsertAt s m.clean st nw e.comment with
          | some r => r
          | none => applyIndexed s m.clean st 0 nw e.comment (some .insertion)
        else
          match nestedProxyAt s m.clean st ln nw e.comment with
          | some r => r
          | none => applyIndexed s m.clean st ln nw e.comment (some (if nw.isEmpty then .deletion else .modification)) := by
  rw [heuristicDirect, effectiveEdit]
  dsimp only
  generalize (List.take m.len (List.drop m.start (ospansText (s.spans m.clean)))) = actual
  generalize Trim.trim Trim.pyIsSpace actual e.new = pq
  generalize (actual.take (actual.length - pq.2)).drop pq.1 = ft
  generalize (e.new.take (e.new.length - pq.2)).drop pq.1 = fn
  by_cases h1 : actual = e.new
  · rw [if_pos h1, if_pos h1]
  rw [if_neg h1, if_neg h1]
  by_cases h2 : actual.isPrefixOf e.new = true
  · rw [if_pos h2, if_pos h2]
    rfl
  rw [if_neg h2, if_neg h2]
  by_cases h3 : (ft.isEmpty && fn.isEmpty) = true
  · rw [if_pos h3, if_pos h3]
  rw [if_neg h3, if_neg h3]
  -- with the two lookups as variables the matches on them are stuck, and `rfl` does not evaluate the lookups
  dsimp only
  generalize nestedInsertAt s m.clean (m.start + pq.1) fn e.comment = oi
  generalize nestedProxyAt s m.clean (m.start + pq.1) ft.length fn e.comment = op
  cases ft with
  | nil => simp only [List.isEmpty_nil, List.length_nil, if_true]; rfl
  | cons c r =>
    simp only [List.isEmpty_cons, List.length_cons, Bool.false_eq_true, if_false, Nat.add_one_ne_zero]
    rfl

theorem withOffsets_go_sp (ss : List Span) : ∀ (n : Nat) (acc : List OSpan),
    ((ss.foldl (fun (acc : Nat × List OSpan) s => (acc.1 + s.text.length, acc.2 ++ [⟨acc.1, acc.1 + s.text.length, s⟩])) (n, acc)).2).map (·.sp)
      = acc.map (·.sp) ++ ss := by
  induction ss with
  | nil => intro n acc; simp
  | cons x rest ih =>
    intro n acc
    simp only [List.foldl_cons]
    rw [ih]
    simp

theorem withOffsets_sp (ss : List Span) : (withOffsets ss).map (·.sp) = ss := by
  have := withOffsets_go_sp ss 0 []
  simpa [withOffsets] using this

theorem ospansText_withOffsets (ss : List Span) : ospansText (withOffsets ss) = spansText ss := by
  unfold ospansText spansText
  conv => rhs; rw [← withOffsets_sp ss]
  rw [List.flatMap_map]

/-- The text in which the engine looks for a target is exactly the text a client reads from the
document (raw or accepted view), as long as the session's comment data is that of the document — which it
is when the session is opened (`Sess.open_cmap`) and until the session adds a comment itself -/
theorem spans_text_eq_extractText (s : Sess) (clean : Bool) (hcm : s.cmap = commentsMap s.doc) :
    ospansText (s.spans clean) = extractText clean s.doc := by
  unfold Sess.spans
  rw [ospansText_withOffsets, hcm]
  exact mapperText_eq_extractText clean s.doc

theorem Sess.open_cmap (d : Document) (author date : Str) :
    (Sess.open d author date).cmap = commentsMap (Sess.open d author date).doc := rfl

theorem findMatchIndex_absent (text target : Str) (ex : Bool)
    (h1 : Markup.find target text = none)
    (h2 : Markup.find (Markup.replaceSmart target) (Markup.replaceSmart text) = none) :
    findMatchIndex text target ex none = none := by
  simp [findMatchIndex, h1, h2]

/-- "cannot be located": the target occurs literally (also after quote normalisation) in neither the raw
nor the accepted text, and the non-literal matchers found nothing -/
theorem locate_absent (s : Sess) (e : HEdit) (hr : e.fzRaw = none) (hc : e.fzClean = none)
    (h1 : Markup.find e.target (ospansText (s.spans false)) = none)
    (h2 : Markup.find (Markup.replaceSmart e.target) (Markup.replaceSmart (ospansText (s.spans false))) = none)
    (h3 : Markup.find e.target (ospansText (s.spans true)) = none)
    (h4 : Markup.find (Markup.replaceSmart e.target) (Markup.replaceSmart (ospansText (s.spans true))) = none) :
    locate s e = none := by
  simp [locate, hr, hc, findMatchIndex_absent _ _ _ h1 h2, findMatchIndex_absent _ _ _ h3 h4]

/-- A target that is an exact piece of the raw text and does not touch deleted text is located at its first
occurrence in the raw view, with its own length — before any accepted-view or non-literal lookup. -/
theorem locate_exact_raw (s : Sess) (e : HEdit) (i : Nat)
    (h : Markup.find e.target (ospansText (s.spans false)) = some i)
    (hd : touchesDeletion (s.spans false) i (i + e.target.length) = false) :
    locate s e = some ⟨false, i, e.target.length⟩ := by
  simp [locate, findMatchIndex, h, hd]

/-- A target that is not an exact piece of the raw text (it runs across deleted text) but is one of the
accepted text is located there — before any non-literal lookup in either view. -/
theorem locate_exact_clean (s : Sess) (e : HEdit) (i : Nat)
    (h1 : Markup.find e.target (ospansText (s.spans false)) = none)
    (h2 : Markup.find (Markup.replaceSmart e.target) (Markup.replaceSmart (ospansText (s.spans false))) = none)
    (h : Markup.find e.target (ospansText (s.spans true)) = some i) :
    locate s e = some ⟨true, i, e.target.length⟩ := by
  simp [locate, findMatchIndex, h1, h2, h]

end Adeu.Doc
