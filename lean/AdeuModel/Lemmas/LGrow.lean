import AdeuModel.Lemmas.History
import AdeuModel.Lemmas.List
namespace Adeu.Doc
open Adeu

/-- entry `i` of the comments part, of commentsExtended, of commentsIds and of commentsExtensible describe the same
comment: the paragraph id of the comment's last paragraph is the extended entry's id and the ids entry's key, and
the durable id of the ids entry is the extensible entry's key -/
def linked4 (cs : List Comment) (ex : List CommentEx) (ids : List (Str × Str)) (cex : List (Str × Str)) : Prop :=
  cs.map (fun c => c.paras.getLast?.bind (·.paraId)) = ex.map (·.paraId) ∧
  ex.map (·.paraId) = ids.map (fun i => some i.1) ∧
  ids.map (·.2) = cex.map (·.1)

theorem linked4_nil : linked4 [] [] [] [] := ⟨rfl, rfl, rfl⟩

theorem linked4_append {a a' : List Comment} {b b' : List CommentEx} {c c' d d' : List (Str × Str)}
    (h : linked4 a b c d) (h' : linked4 a' b' c' d') : linked4 (a ++ a') (b ++ b') (c ++ c') (d ++ d') := by
  obtain ⟨h1, h2, h3⟩ := h
  obtain ⟨h1', h2', h3'⟩ := h'
  simp only [linked4, List.map_append]
  exact ⟨by rw [h1, h1'], by rw [h2, h2'], by rw [h3, h3']⟩

/-- `Grows`, and what was added to the four comment lists is linked entry by entry -/
structure LGrows (s s' : Sess) : Prop where
  grows : Grows s s'
  link : linked4 (s'.doc.comments.drop s.doc.comments.length) (s'.doc.commentsEx.drop s.doc.commentsEx.length)
    (s'.doc.commentsIds.drop s.doc.commentsIds.length) (s'.doc.commentsCex.drop s.doc.commentsCex.length)

theorem LGrows.refl (s : Sess) : LGrows s s := ⟨Grows.refl s, by simp [linked4]⟩

theorem LGrows.trans {a b c : Sess} (h1 : LGrows a b) (h2 : LGrows b c) : LGrows a c := by
  refine ⟨h1.grows.trans h2.grows, ?_⟩
  rw [drop_of_prefixes h1.grows.comments h2.grows.comments, drop_of_prefixes h1.grows.commentsEx h2.grows.commentsEx,
    drop_of_prefixes h1.grows.commentsIds h2.grows.commentsIds, drop_of_prefixes h1.grows.commentsCex h2.grows.commentsCex]
  exact linked4_append h1.link h2.link

theorem LGrows_of_still {s s' : Sess} (h : Still s s') : LGrows s s' :=
  ⟨h.grows, by rw [h.comments, h.commentsEx, h.commentsIds, h.commentsCex]; simp [linked4]⟩

theorem LGrows_addComment (s : Sess) (text : Str) (parent : Option Str) : LGrows s (s.addComment text parent).1 := by
  refine ⟨Grows_addComment s text parent, ?_⟩
  -- the new paragraph id goes into comments, commentsExtended and commentsIds, the new durable id into commentsIds and
  -- commentsExtensible
  simp [Sess.addComment, linked4]

theorem LGrows_mapBody (s : Sess) (g : List Node → List Node) :
    LGrows s { s with doc := { s.doc with body := mapNodesBlocks g s.doc.body } } :=
  LGrows_of_still (Still_setBody s _ (skel_mapNodesBlocks g _))

theorem LGrows_of_reach {s0 s : Sess} (h : Reach s0 s) : LGrows s0 s := by
  induction h with
  | start => exact .refl s0
  | still _ hs _ ih => exact ih.trans (LGrows_of_still hs)
  | addComment t p _ ih => exact ih.trans (LGrows_addComment _ t p)

theorem LGrows_foldl_trackDelete (ts : List RunRef) : ∀ s : Sess, LGrows s (ts.foldl (fun acc t => (trackDelete acc t).1) s) :=
  fun s => LGrows_of_reach (Reach.step_foldl_trackDelete ts s .start)

/-- the four comment lists of a document are linked entry by entry -/
def DocLinked (d : Document) : Prop := linked4 d.comments d.commentsEx d.commentsIds d.commentsCex

theorem linked_of_LGrows {s s' : Sess} (h : LGrows s s') (h0 : DocLinked s.doc) : DocLinked s'.doc := by
  have e1 := List.prefix_iff_eq_append.mp h.grows.comments
  have e2 := List.prefix_iff_eq_append.mp h.grows.commentsEx
  have e3 := List.prefix_iff_eq_append.mp h.grows.commentsIds
  have e4 := List.prefix_iff_eq_append.mp h.grows.commentsCex
  unfold DocLinked
  rw [← e1, ← e2, ← e3, ← e4]
  exact linked4_append h0 h.link

/-- **The comment parts stay linked.**  If in the opened document entry `i` of comments.xml, commentsExtended,
commentsIds and commentsExtensible belong together (paragraph id / durable id), then so they do after any batch:
every comment a run adds brings exactly one entry in each part, with matching ids, at the same position. -/
theorem linked_of_reach {d : Document} {author date : Str} {s : Sess} (hs : Reach (Sess.open d author date) s)
    (h : DocLinked d) : DocLinked s.doc :=
  -- `Sess.open` normalises the stories only: the comment lists of the opened session are those of `d` (by `rfl`)
  linked_of_LGrows (LGrows_of_reach hs) h

end Adeu.Doc
