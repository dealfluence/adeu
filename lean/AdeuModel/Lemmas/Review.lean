import AdeuModel.Lemmas.Engine
import AdeuModel.Lemmas.Items
namespace Adeu.Doc
open Adeu

theorem hasRevN_ne {i j : Str} (hij : i ≠ j) (n : Node) (h : hasRevN i n = true) : hasRevN j n = false := by
  cases n with
  | ins rev _ | del rev _ => exact decide_eq_false fun e => hij ((of_decide_eq_true h).symm.trans e)
  | _ => rfl

/-- Actions on distinct ids commute (all four accept/reject combinations), at one paragraph child. -/
theorem actN_comm (a b : Bool) (i j : Str) (hij : i ≠ j) (n : Node) :
    (actN a i n).flatMap (actN b j) = (actN b j n).flatMap (actN a i) := by
  -- one of the two ids is not on `n`; say `i`: then `n` stays under `i`, and so does what `j` makes of it
  have half : ∀ (a b : Bool) (i j : Str), hasRevN i n = false →
      (actN a i n).flatMap (actN b j) = (actN b j n).flatMap (actN a i) := by
    intro a b i j hi
    rw [actN_other a i n hi, List.flatMap_singleton]
    rcases actN_spec b j n with ⟨_, e⟩ | ⟨_, h⟩
    · rw [e, List.flatMap_singleton, actN_other a i n hi]
    · exact (actN_flatMap_unknown a i _ fun m hm => hasRevN_of_revOf (h m hm) i).symm
  by_cases hi : hasRevN i n = true
  · exact (half b a j i (hasRevN_ne hij n hi)).symm
  · exact half a b i j (Bool.eq_false_iff.mpr hi)

theorem flatMap_comm {α} (f g : α → List α) (h : ∀ a, (f a).flatMap g = (g a).flatMap f) (l : List α) :
    (l.flatMap f).flatMap g = (l.flatMap g).flatMap f := by
  simp only [List.flatMap_assoc, h]

theorem actNodes_comm (a b : Bool) (i j : Str) (hij : i ≠ j) (ns : List Node) :
    (ns.flatMap (actN a i)).flatMap (actN b j) = (ns.flatMap (actN b j)).flatMap (actN a i) :=
  flatMap_comm _ _ (actN_comm a b i j hij) ns

/-- after an action on `i` no child carries `i` any more (a second action on it is skipped) -/
theorem actNodes_clears (acc : Bool) (i : Str) (ns : List Node) :
    ∀ m ∈ ns.flatMap (actN acc i), hasRevN i m = false := by
  intro m hm
  obtain ⟨n, _, hmn⟩ := List.mem_flatMap.mp hm
  rcases actN_spec acc i n with ⟨h, e⟩ | ⟨_, h⟩
  · rw [e, List.mem_singleton] at hmn; exact hmn ▸ h
  · exact hasRevN_of_revOf (h m hmn) i

/-- a rewriting of paragraph children that keeps the accepted-view characters of every child keeps those of the
paragraph -/
theorem acceptedChars_flatMap (f : Node → List Node) (h : ∀ n, acceptedChars (f n) = acceptedCharsN n) (ns : List Node) :
    acceptedChars (ns.flatMap f) = acceptedChars ns := by
  unfold acceptedChars at h ⊢
  simp only [List.flatMap_assoc, h]

theorem acceptedChars_acceptAllN_one (n : Node) : acceptedChars (acceptAllN n) = acceptedCharsN n := by
  cases n with
  | ins rev ch =>
    simp only [acceptAllN, acceptedChars, acceptedCharsN, List.flatMap_map]
    congr 1; funext c; cases c <;> rfl
  | del => rfl
  | _ => exact List.append_nil _

/-- accepting a change never alters the accepted-view characters of a paragraph -/
theorem acceptedChars_acceptN (i : Str) (n : Node) :
    acceptedChars (acceptN i n) = acceptedCharsN n := by
  -- accepting one change does to its element what accept-all does, and nothing to any other
  have : acceptN i n = acceptAllN n ∨ acceptN i n = [n] := by
    cases n with
    | ins rev ch | del rev runs => exact (Decidable.em (rev.id = i)).imp (if_pos ·) (if_neg ·)
    | _ => exact .inr rfl
  rcases this with h | h <;> rw [h]
  · exact acceptedChars_acceptAllN_one n
  · exact List.append_nil _

/-- `accept_all_revisions` leaves the accepted-view characters as they are (before comment stripping) -/
theorem acceptedChars_acceptAllN (ns : List Node) : acceptedChars (ns.flatMap acceptAllN) = acceptedChars ns :=
  acceptedChars_flatMap _ acceptedChars_acceptAllN_one ns

theorem acceptAllN_noRev (ns : List Node) : ∀ m ∈ ns.flatMap acceptAllN, isRevN m = false := by
  intro m hm
  obtain ⟨n, _, hmn⟩ := List.mem_flatMap.mp hm
  have := acceptAllN_revOf n m hmn
  cases m <;> first | rfl | cases this

/-- what accept-all leaves of a paragraph's children opens nothing -/
theorem acceptAll_nodes_quiet (ns : List Node) : ∀ n ∈ (ns.flatMap acceptAllN).flatMap stripCommentN, quietNode n = true := by
  intro n hn
  obtain ⟨m, hm, hn⟩ := List.mem_flatMap.mp hn
  obtain ⟨o, _, hm⟩ := List.mem_flatMap.mp hm
  -- `m` is no mark; stripping leaves it, or a run in place of a run, or - of a range marker - nothing
  have := acceptAllN_revOf o m hm
  cases m with
  | ins | del => cases this
  | cs | ce => cases hn
  | _ => rw [List.mem_singleton.mp hn]; rfl

theorem applyActions_total (s : Sess) (acts : List Action) :
    (s.applyActions acts).2.1 + (s.applyActions acts).2.2 = acts.length := by
  unfold Sess.applyActions
  -- every action is counted once, as applied or as skipped
  rw [foldl_count _ (fun acc : Sess × Nat × Nat => acc.2.1 + acc.2.2) (fun acc a => by split; split <;> (simp only; omega))]
  simp

/-- accept / reject of change `id` on the whole main story -/
def actChange (acc : Bool) (id : Str) (body : List Block) : List Block × Bool :=
  if acc then acceptChange id body else rejectChange id body

theorem actChange_fst (acc : Bool) (id : Str) (body : List Block) :
    (actChange acc id body).1 = mapNodesBlocks (·.flatMap (actN acc id)) body := by
  cases acc <;> rfl

theorem actChange_snd (acc : Bool) (id : Str) (body : List Block) : (actChange acc id body).2 = hasRev id body := by
  cases acc <;> rfl

end Adeu.Doc
