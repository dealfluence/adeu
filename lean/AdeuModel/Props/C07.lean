import AdeuModel.Lemmas.LGrow
import AdeuModel.Lemmas.ComGrow
import AdeuModel.Model.History
import AdeuModel.Lemmas.Engine
import AdeuModel.Lemmas.Review
import AdeuModel.Lemmas.History
import AdeuModel.Lemmas.AttrHistory
/-
C07 — multi-round negotiation keeps the document consistent.

The single-step theorems (C01, C06, C08, C09, C10, C16) are stated for every document, hence for
every document a history reaches; what is specific to histories is stated here by induction over
the list of steps: the accounting of every round, freshness of the ids of every round with respect
to everything earlier rounds (and authors) left in the document, and that what earlier rounds left
pending can be resolved one by one; and, over whole histories, what every round keeps: skeletons and
comment entries, whose marks and whose comments the result carries, distinct comment ids, linked comment
parts (every round is a session that makes the engine's moves, `stepDoc_reach`).  The agreement of the whole
history with the real engine — saved bytes after every step — is the correspondence of this check.
-/
namespace Adeu.Props.C07
open Adeu Adeu.Doc

/-- every round reports applied + skipped = number of requests of that round -/
theorem C07_accounting (d : Document) (steps : List Step) :
    (runHistory d steps).2.length = steps.length ∧
    ∀ i (h : i < steps.length) (h' : i < (runHistory d steps).2.length),
      ((runHistory d steps).2[i]).1 + ((runHistory d steps).2[i]).2 = (steps[i]).requests := by
  induction steps generalizing d with
  | nil => exact ⟨rfl, fun i h => absurd h (Nat.not_lt_zero _)⟩
  | cons st rest ih =>
    obtain ⟨ih1, ih2⟩ := ih (stepDoc d st).1
    refine ⟨by simp [runHistory, ih1], ?_⟩
    intro i h h'
    cases i with
    | zero =>
      simp only [runHistory, List.getElem_cons_zero]
      cases st with
      | edits a es => exact applyEditsIndexed_total _ es
      | actions a acts => exact applyActions_total _ acts
      | acceptAll => rfl
    | succ i =>
      simp only [runHistory, List.getElem_cons_succ]
      exact ih2 i (by simpa using h) (by simpa [runHistory] using h')

/-- In every round, whoever the author, the ids handed out are larger than every numeric revision id
that the document carries at that point — the input's ids and the ids of all earlier rounds alike —
in the main part and in every reachable header / footer part: revision ids stay unique across
rounds and authors whenever the input's were. -/
theorem C07_ids_fresh_every_round (d : Document) (steps : List Step) (dk : Document) (hk : dk ∈ reached d steps)
    (author : Str) (bs : List Block) (n : Node) (rev : Rev) (k : Nat)
    (hbs : bs ∈ docParts (normalize dk)) (hn : n ∈ allNodesBlocks bs) (hform : revOf n = some rev)
    (hid : strNat? rev.id = some k) :
    k < (Sess.open dk author sessionDate).nextRev + 1 :=
  newRev_fresh dk author sessionDate bs n rev k hbs hn hform hid

/-- What an earlier round left pending stays individually resolvable: in every document a history
reaches, accepting / rejecting a change id acts on exactly the marks with that id, leaves no mark
with that id behind, and every other node of the paragraph is untouched and in place. -/
theorem C07_pending_resolvable (acc : Bool) (id : Str) (ns : List Node) :
    (∀ m ∈ ns.flatMap (actN acc id), hasRevN id m = false) ∧
    (∀ n ∈ ns, hasRevN id n = false → actN acc id n = [n]) :=
  ⟨actNodes_clears acc id ns, fun n _ h => actN_other acc id n h⟩

/-- accept-all at any point of a history leaves no revision mark and does not change the accepted text -/
theorem C07_accept_all_clean (ns : List Node) :
    acceptedChars (ns.flatMap acceptAllN) = acceptedChars ns ∧ ∀ m ∈ ns.flatMap acceptAllN, isRevN m = false :=
  ⟨acceptedChars_acceptAllN ns, acceptAllN_noRev ns⟩

/-- Over any history — edit batches by any authors, review actions, replies, accept-all, with save and reload
between rounds — every story keeps its skeleton (each paragraph's style and properties, tables with their
properties, rows, cells, other blocks, all in order; paragraphs are only ever added) and every comment entry
that is present at some point is still there, in the same place of all four comment lists, at the end. -/
theorem C07_history_frame (d : Document) (steps : List Step) :
    (skel d.body).Sublist (skel (runHistory d steps).1.body) ∧
    SkelLe d.headers (runHistory d steps).1.headers ∧ SkelLe d.footers (runHistory d steps).1.footers ∧
    d.comments <+: (runHistory d steps).1.comments ∧ d.commentsEx <+: (runHistory d steps).1.commentsEx :=
  let g := DocGrows_runHistory steps d
  ⟨g.skel.body, g.skel.headers, g.skel.footers, g.comments, g.commentsEx⟩

/-- Over any history: every revision mark in the final document is a mark of the original document (unchanged id,
author, date) or was created in one of the edit rounds — it carries that round's author and the session date.
Review rounds, replies and accept-all add no marks and re-label none. -/
theorem C07_marks_over_history (d : Document) (steps : List Step) :
    ∀ x ∈ revsDoc (runHistory d steps).1,
      x ∈ revsDoc d ∨ (x.date = some sessionDate ∧ ∃ a ∈ roundAuthors steps, x.author = some a) :=
  marks_over_history steps d

/-- the reached documents: one more than the number of steps, starting with the input -/
theorem C07_reached_length (d : Document) (steps : List Step) :
    (reached d steps).length = steps.length + 1 ∧ (reached d steps).head? = some d := by
  induction steps generalizing d with
  | nil => exact ⟨rfl, rfl⟩
  | cons st rest ih => exact ⟨by simp [reached, (ih _).1], rfl⟩

/-- Over any history - edit rounds, review rounds with replies, accept-all, a save and reload between rounds - every
entry of the comments part at the end is an entry of the original document or was written in one of the rounds, under
that round's author. -/
theorem C07_comments_over_history (steps : List Step) (d : Document) :
    ∀ c ∈ (runHistory d steps).1.comments, c ∈ d.comments ∨ ∃ a ∈ sessionAuthors steps, c.author = some a :=
  runHistory_members (·.comments) sessionAuthors (fun a c => c.author = some a)
    (fun st rest => by cases st <;> rfl) comments_stepDoc steps d

/-- ... and the comment ids stay pairwise distinct through the whole history (every round reloads the document and
restarts its counter above the ids it finds). -/
theorem C07_comment_ids_unique_over_history (steps : List Step) (d : Document)
    (h : (d.comments.map (·.id)).Nodup) : ((runHistory d steps).1.comments.map (·.id)).Nodup :=
  runHistory_reach (P := fun d => (d.comments.map (·.id)).Nodup) (fun _ _ _ => comment_ids_unique_of_reach) steps d h

/-- ... and the four comment parts stay linked entry by entry through the whole history. -/
theorem C07_comment_parts_linked_over_history (steps : List Step) (d : Document) (h : DocLinked d) :
    DocLinked (runHistory d steps).1 :=
  runHistory_reach (fun _ _ _ => linked_of_reach) steps d h

end Adeu.Props.C07
