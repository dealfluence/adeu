import AdeuModel.Lemmas.History
namespace Adeu.Doc
open Adeu

/-- The ids of the marks a session adds lie above every numeric revision id that the opened document carries in
the stories the engine reaches — so a new mark never shares its id with a mark that was already there. -/
theorem new_ids_above_old (d : Document) (author date : Str) (edits : List HEdit) (x : Rev)
    (hx : x ∈ revsDoc (Doc.applyEdits (Sess.open d author date) edits).1.doc)
    (hnew : x ∉ revsDoc (Sess.open d author date).doc) :
    ∃ k, x.id = natStr k ∧ x.author = some author ∧ x.date = some date ∧
      ∀ bs ∈ docParts (normalize d), ∀ n ∈ allNodesBlocks bs, ∀ rev k', revOf n = some rev → strNat? rev.id = some k' → k' < k := by
  rcases (RevOk_applyEdits (Sess.open d author date) edits).revs x hx with h | h
  · exact absurd h hnew
  · obtain ⟨ha, hd, k, hk1, _, hk3⟩ := h
    refine ⟨k, hk3, ha, hd, ?_⟩
    exact fun bs hbs n hn rev k' hr hk' => Nat.lt_of_lt_of_le (newRev_fresh d author date bs n rev k' hbs hn hr hk') hk1

theorem revsDoc_open (d : Document) (author date : Str) : revsDoc (Sess.open d author date).doc = revsDoc d :=
  revsDoc_of_canon (canonDoc_normalize d)

theorem marks_stepDoc (d : Document) (st : Step) : ∀ x ∈ revsDoc (stepDoc d st).1,
    x ∈ revsDoc d ∨ ∃ a ∈ roundAuthors [st], x.date = some sessionDate ∧ x.author = some a := by
  intro x hx
  obtain ⟨a, s, hs, e, _, ha⟩ := stepDoc_reach d st
  rw [e] at hx
  -- a fresh mark has an id the round handed out, so the round is one that hands out revision ids
  exact (hs.revOk.revs x hx).imp (fun h => revsDoc_open d a sessionDate ▸ h) fun ⟨h1, h2, k, k1, k2, _⟩ =>
    ⟨a, ha.resolve_right fun e => Nat.lt_irrefl k (Nat.lt_of_le_of_lt (e ▸ k2) k1), h2, h1⟩

/-- Over any history: every revision mark in the final document is a mark of the original document (unchanged id,
author, date) or was created in one of the edit rounds — it carries that round's author and the session date.
Review rounds and accept-all only remove marks. -/
theorem marks_over_history (steps : List Step) : ∀ (d : Document), ∀ x ∈ revsDoc (runHistory d steps).1,
    x ∈ revsDoc d ∨ (x.date = some sessionDate ∧ ∃ a ∈ roundAuthors steps, x.author = some a) :=
  fun d x hx => (runHistory_members revsDoc roundAuthors (fun a x => x.date = some sessionDate ∧ x.author = some a)
    (fun st rest => by cases st <;> rfl) marks_stepDoc steps d x hx).imp_right
      fun ⟨a, ha, hd, hau⟩ => ⟨hd, a, ha, hau⟩

end Adeu.Doc
