import AdeuModel.Lemmas.LGrow
import AdeuModel.Lemmas.ComGrow
import AdeuModel.Lemmas.Engine
import AdeuModel.Lemmas.Grow
import AdeuModel.Lemmas.ShownWith
import AdeuModel.Lemmas.NewComment
/-
C10 — comments requested with an edit or a reply are never lost or misattached (model-level clauses).
-/
namespace Adeu.Props.C10
open Adeu Adeu.Doc

/-- `add_comment` appends exactly one comment with the given text and the session's author;
existing comments keep their text, author, date and position; the stories are untouched. -/
theorem C10_one_new_comment (s : Sess) (text : Str) (parent : Option Str) :
    ∃ c, (s.addComment text parent).1.doc.comments = s.doc.comments ++ [c] ∧
      c.id = (s.addComment text parent).2 ∧ c.author = some s.author ∧ c.paras.map (·.text) = [[text]] ∧
      (s.addComment text parent).1.doc.body = s.doc.body := by
  have h := addComment_spec s text parent
  -- `h.comments` fixes the entry; what is left are projections of it (a plain `rfl` unfolds `addComment` first: slow)
  refine ⟨_, h.comments, ?_, ?_, ?_, h.body⟩
  · with_reducible rfl
  · with_reducible rfl
  · simp only [List.map_cons, List.map_nil]

/-- The range markers attached for an edit's comment enclose the marks created by that edit: the
start goes in front of the first deletion (child `i`), the end and the reference run directly
behind the insertion (child `j`). -/
theorem C10_anchor_encloses (ns : List Node) (i j : Nat) (cid : Str) :
    attachCommentNodes ns i j cid =
      insertNodesAt (insertNodesAt ns i [.cs cid]) (j + 2) [.ce cid, .run (crefRun cid)] := rfl

example : attachCommentNodes [.other "a".toList, .other "del".toList, .other "ins".toList, .other "z".toList] 1 2 "7".toList =
    [.other "a".toList, .cs "7".toList, .other "del".toList, .other "ins".toList, .ce "7".toList,
     .run (crefRun "7".toList), .other "z".toList] := rfl

/-- The comment the engine writes is the comment the reader reads (layers E + D): after `add_comment` the reader's comment
map has an entry under the new id with exactly that text (stripped), the session's author, not resolved - whatever comments
the document held before (an id clash included: the new entry is the last one; the threading pass changes `parent` only).
With C10_comment_shown_with_* and C04_block_lists_anchored_comments: the requested comment text is rendered, under its id,
in the metadata block behind the change it explains. -/
theorem C10_new_comment_read_back (s : Sess) (text : Str) (parent : Option Str) :
    ∃ dd, cmGet (commentsMap (s.addComment text parent).1.doc) (s.addComment text parent).2 = some dd ∧
      (dd.text = stripStr Trim.pyIsSpace (([text].filter (!·.isEmpty)).flatten ++ ['\n']) ∧
      dd.author = (truthy (some s.author)).getD "Unknown".toList ∧ dd.resolved = false) :=
  addComment_read_back s text parent

/-! ### shown with the change (reader model on what the engine writes) -/

/-- A comment attached to an insertion (`⟨range start⟩ ⟨w:ins: text run⟩ ⟨range end⟩ ⟨reference⟩`, the shape
`attachCommentNodes` leaves - C10_anchor_encloses) is read back with it: the metadata of the paragraph's raw view is
built from a snapshot in which the insertion's id *and* the comment's id are open, so `[Chg:id]` and the comment's
thread are rendered in the same `{>>…<<}` block behind the inserted text (C04_meta_blocks_are_rendered_groups,
C04_block_lists_open_changes_once).  Any paragraph content before / after; the run is plain text outside a hidden
PAGE / NUMPAGES field. -/
theorem C10_comment_shown_with_insertion (cm : CMap) (p : Para) (pre post : List Node) (cid : Str) (rev : Rev) (r : Run)
    (hn : p.nodes = pre ++ ([.cs cid, .ins rev [.run r], .ce cid, .run (crefRun cid)] ++ post))
    (hst : (stAfter {} pre 0).hide = false) (hr : r.ch.all isT = true)
    (hseg : (applyFormatting (runText r) (runMarkers r).1 (runMarkers r).2).isEmpty = false) :
    ∃ snap ∈ (metaGroups cm p).flatten, cid ∈ snap.comments ∧ rev.id ∈ snap.ins.map (·.1) :=
  -- the inserted run's snapshot has the insertion open
  shown_in_range cm p pre [.ins rev [.run r]] _ cid hn (fun snap => rev.id ∈ snap.ins.map (·.1)) fun i d c _ =>
    ⟨{ ins := revSet rev.id rev.author i, del := d, comments := c }, by
      simp only [itemsFrom, nodeItems, insItems]
      rw [processRun_textRun _ r _ hst hr]
      simp [snapSpec, hseg], rfl, mem_revSet ..⟩

/-- … a comment on a pure deletion with the deleted text … -/
theorem C10_comment_shown_with_deletion (cm : CMap) (p : Para) (pre post : List Node) (cid : Str) (rev : Rev) (r : Run)
    (hn : p.nodes = pre ++ ([.cs cid, .del rev [r], .ce cid, .run (crefRun cid)] ++ post))
    (hseg : (applyFormatting (runText r) (runMarkers r).1 (runMarkers r).2).isEmpty = false) :
    ∃ snap ∈ (metaGroups cm p).flatten, cid ∈ snap.comments ∧ rev.id ∈ snap.del.map (·.1) :=
  shown_in_range cm p pre [.del rev [r]] _ cid hn (fun snap => rev.id ∈ snap.del.map (·.1)) fun i d c _ =>
    ⟨{ ins := i, del := revSet rev.id rev.author d, comments := c }, by simp [itemsFrom, nodeItems, snapSpec, hseg], rfl,
      mem_revSet ..⟩

/-- … and a comment on a replacement with the inserted half of it. -/
theorem C10_comment_shown_with_replacement (cm : CMap) (p : Para) (pre post : List Node) (cid : Str) (rd ri : Rev) (dr r : Run)
    (hn : p.nodes = pre ++ ([.cs cid, .del rd [dr], .ins ri [.run r], .ce cid, .run (crefRun cid)] ++ post))
    (hst : (stAfter {} pre 0).hide = false) (hr : r.ch.all isT = true)
    (hseg : (applyFormatting (runText r) (runMarkers r).1 (runMarkers r).2).isEmpty = false) :
    ∃ snap ∈ (metaGroups cm p).flatten, cid ∈ snap.comments ∧ ri.id ∈ snap.ins.map (·.1) :=
  shown_in_range cm p pre [.del rd [dr], .ins ri [.run r]] _ cid hn (fun snap => ri.id ∈ snap.ins.map (·.1)) fun i d c _ =>
    ⟨{ ins := revSet ri.id ri.author i, del := revDel rd.id (revSet rd.id rd.author d), comments := c }, by
      simp only [itemsFrom, nodeItems, insItems]
      rw [processRun_textRun _ r _ hst hr]
      -- whether or not the deleted run carries text, the inserted run's snapshot is there
      simp [snapSpec, hseg], rfl, mem_revSet ..⟩

/-- **End to end** (engine model + reader model): let the session add a comment with `add_comment` and let a paragraph of the
resulting document hold the range of that comment around an insertion, as `attachCommentNodes` leaves it. Then the raw
view of that paragraph - read with the comment map of the *resulting* document - has a metadata block `{>>…<<}` that is
built from a snapshot in which the insertion is open and that has a line `[Com:id] …` for the new comment. -/
theorem C10_commented_insertion_end_to_end (s : Sess) (text : Str) (p : Para) (pre post : List Node) (rev : Rev) (r : Run)
    (hn : p.nodes = pre ++ ([.cs (s.addComment text none).2, .ins rev [.run r], .ce (s.addComment text none).2,
      .run (crefRun (s.addComment text none).2)] ++ post))
    (hst : (stAfter {} pre 0).hide = false) (hr : r.ch.all isT = true)
    (hseg : (applyFormatting (runText r) (runMarkers r).1 (runMarkers r).2).isEmpty = false) :
    ∃ states : List Snap,
      metaBlock (commentsMap (s.addComment text none).1.doc) states ∈
        notesOf (rawSegs (commentsMap (s.addComment text none).1.doc) p) ∧
      (∃ snap ∈ states, (s.addComment text none).2 ∈ snap.comments ∧ rev.id ∈ snap.ins.map (·.1)) ∧
      ∃ l ∈ (states.foldl (metaStep (commentsMap (s.addComment text none).1.doc)) ([], [], [])).2.1,
        comHead (s.addComment text none).2 <+: l := by
  obtain ⟨dd, hd, _⟩ := addComment_read_back s text none
  exact shown_snapshot_rendered _ p _ dd hd _ (C10_comment_shown_with_insertion _ p pre post _ rev r hn hst hr hseg)

/-- The same chain for a commented pure deletion and a commented replacement. -/
theorem C10_commented_deletion_end_to_end (s : Sess) (text : Str) (p : Para) (pre post : List Node) (rev : Rev) (r : Run)
    (hn : p.nodes = pre ++ ([.cs (s.addComment text none).2, .del rev [r], .ce (s.addComment text none).2,
      .run (crefRun (s.addComment text none).2)] ++ post))
    (hseg : (applyFormatting (runText r) (runMarkers r).1 (runMarkers r).2).isEmpty = false) :
    ∃ states : List Snap,
      metaBlock (commentsMap (s.addComment text none).1.doc) states ∈
        notesOf (rawSegs (commentsMap (s.addComment text none).1.doc) p) ∧
      (∃ snap ∈ states, (s.addComment text none).2 ∈ snap.comments ∧ rev.id ∈ snap.del.map (·.1)) ∧
      ∃ l ∈ (states.foldl (metaStep (commentsMap (s.addComment text none).1.doc)) ([], [], [])).2.1,
        comHead (s.addComment text none).2 <+: l := by
  obtain ⟨dd, hd, _⟩ := addComment_read_back s text none
  exact shown_snapshot_rendered _ p _ dd hd _ (C10_comment_shown_with_deletion _ p pre post _ rev r hn hseg)

theorem C10_commented_replacement_end_to_end (s : Sess) (text : Str) (p : Para) (pre post : List Node) (rd ri : Rev) (dr r : Run)
    (hn : p.nodes = pre ++ ([.cs (s.addComment text none).2, .del rd [dr], .ins ri [.run r], .ce (s.addComment text none).2,
      .run (crefRun (s.addComment text none).2)] ++ post))
    (hst : (stAfter {} pre 0).hide = false) (hr : r.ch.all isT = true)
    (hseg : (applyFormatting (runText r) (runMarkers r).1 (runMarkers r).2).isEmpty = false) :
    ∃ states : List Snap,
      metaBlock (commentsMap (s.addComment text none).1.doc) states ∈
        notesOf (rawSegs (commentsMap (s.addComment text none).1.doc) p) ∧
      (∃ snap ∈ states, (s.addComment text none).2 ∈ snap.comments ∧ ri.id ∈ snap.ins.map (·.1)) ∧
      ∃ l ∈ (states.foldl (metaStep (commentsMap (s.addComment text none).1.doc)) ([], [], [])).2.1,
        comHead (s.addComment text none).2 <+: l := by
  obtain ⟨dd, hd, _⟩ := addComment_read_back s text none
  exact shown_snapshot_rendered _ p _ dd hd _ (C10_comment_shown_with_replacement _ p pre post _ rd ri dr r hn hst hr hseg)

/-- non-vacuity: `Hello {--big--}{++small++} world` with comment 7 on the replacement -/
def shownPara : Para :=
  { style := none, ppr := [], nodes :=
    [.run { b := none, i := none, rest := [], ch := [.t "Hello ".toList] }] ++
    ([.cs "7".toList,
      .del ⟨"1".toList, some "Q7".toList, none⟩ [{ b := none, i := none, rest := [], ch := [.dt "big".toList] }],
      .ins ⟨"2".toList, some "Q7".toList, none⟩ [.run { b := none, i := none, rest := [], ch := [.t "small".toList] }],
      .ce "7".toList, .run (crefRun "7".toList)] ++
     [.run { b := none, i := none, rest := [], ch := [.t " world".toList] }]) }

example : ∃ snap ∈ (metaGroups [] shownPara).flatten, "7".toList ∈ snap.comments ∧ "2".toList ∈ snap.ins.map (·.1) :=
  C10_comment_shown_with_replacement [] shownPara _ _ _ _ _ _ _ rfl (by decide +kernel) (by decide +kernel) (by decide +kernel)

example : paraText false [("7".toList, ⟨"Q7".toList, "why".toList, [], false, none⟩)] shownPara =
    "Hello {--big--}{++small++}{>>[Chg:1] Q7\n[Chg:2] Q7\n[Com:7] Q7: why<<} world".toList := by
  -- evaluating `String.toList` on a literal is quadratic in the kernel; the rewriting reads the characters off instead
  repeat rw [String.toList_ofList]
  decide +kernel

/-- **A reply is shown with the thread it answers.**  Whenever the reader writes comment `c` into a metadata block
(`c` known to the comment map and not yet in the block), the block afterwards has a line `[Com:r] …` for every comment
`r` whose parent is `c` - for any comment map, any state of the block whose lines match its signatures (the empty block
a metadata block starts from does), any fuel ≥ 2. -/
theorem C10_reply_shown_with_thread (cm : CMap) (n : Nat) (c r : Str) (dc dr : CData)
    (hc : cmGet cm c = some dc) (hr : cmGet cm r = some dr) (hp : dr.parent = some c)
    (lines seen : List Str) (hok : LinesOk (lines, seen)) (hns : seen.contains ("Com:".toList ++ c) = false) :
    ∃ l ∈ (renderComment cm (n + 2) c (lines, seen)).1, comHead r <+: l :=
  rendered_linesOk cm (n + 2) [c] (lines, seen) hok r (reply_rendered_with_parent cm n c r dc dr hc hr hp lines seen hns)

def threadMap : CMap :=
  [("7".toList, ⟨"Q7".toList, "why".toList, [], false, none⟩), ("9".toList, ⟨"Q8".toList, "because".toList, [], false, some "7".toList⟩)]

example : (renderComment threadMap 3 "7".toList ([], [])).1 = ["[Com:7] Q7: why".toList, "[Com:9] Q8: because".toList] := by
  repeat rw [String.toList_ofList]
  decide +kernel
example : LinesOk (([] : List Str), ([] : List Str)) := by intro id h; cases h

/-- Existing comments keep their entry (text, author, date, paragraph ids, threading record) and their
position in all four comment parts, whatever the batch does: the lists only grow at the end. -/
theorem C10_existing_untouched (s : Sess) (edits : List HEdit) :
    s.doc.comments <+: (Doc.applyEdits s edits).1.doc.comments ∧
    s.doc.commentsEx <+: (Doc.applyEdits s edits).1.doc.commentsEx ∧
    s.doc.commentsIds <+: (Doc.applyEdits s edits).1.doc.commentsIds ∧
    s.doc.commentsCex <+: (Doc.applyEdits s edits).1.doc.commentsCex :=
  let g := Grows_applyEdits s edits
  ⟨g.comments, g.commentsEx, g.commentsIds, g.commentsCex⟩

/-- A reply to a comment that does not exist is skipped and adds nothing. -/
theorem C10_reply_unknown_skipped (s : Sess) (tgt tid : Str) (c : Bool) (text : Option Str)
    (hp : parseTarget tgt = (tid, c, true)) (h : s.doc.comments.any (·.id = tid) = false) :
    s.applyAction { kind := .reply, target := tgt, text := text } = (s, false) := by
  simp only [Sess.applyAction, hp, h, Bool.and_false, Bool.false_eq_true, ↓reduceIte]

example : parseTarget "Com:5".toList = ("5".toList, false, true) := by decide +kernel

/-- **Who wrote the comment entries of the result.**  After any batch (literal or searched targets, applied or
skipped) every entry of the comments part is an entry the opened document already had, or an entry written by this
run: this run's author, no parent attribute, not resolved, one paragraph, and a numeric id above every numeric id
the document carried - it cannot be taken for, or collide with, an existing comment. -/
theorem C10_new_comments_attributed (d : Document) (author date : Str) (edits : List HEdit) (c : Comment)
    (hc : c ∈ (Doc.applyEdits (Sess.open d author date) edits).1.doc.comments) :
    c ∈ (normalize d).comments ∨
      (c.author = some author ∧ c.legacyParent = none ∧ c.doneAttr = none ∧ c.paras.length = 1 ∧
        ∃ k, c.id = natStr k ∧ ∀ c' ∈ (normalize d).comments, ∀ k', strNat? c'.id = some k' → k' < k) :=
  new_comments_of_reach (Reach_applyEdits _ edits) c hc

/-- **Comment ids stay unique.**  If the comment ids of the opened document are pairwise distinct, so are those of
the result of any batch: the entries a run adds get consecutive numerals from its counter, which starts above every
numeric id the document carries (and a numeral reads back as its number: `strNat?_natStr`). -/
theorem C10_comment_ids_stay_unique (d : Document) (author date : Str) (edits : List HEdit)
    (hn : ((normalize d).comments.map (·.id)).Nodup) :
    ((Doc.applyEdits (Sess.open d author date) edits).1.doc.comments.map (·.id)).Nodup :=
  comment_ids_unique_of_reach (Reach_applyEdits _ edits) hn

/-- the same for review rounds (replies) -/
theorem C10_comment_ids_stay_unique_actions (d : Document) (author date : Str) (acts : List Action)
    (hn : ((normalize d).comments.map (·.id)).Nodup) :
    (((Sess.open d author date).applyActions acts).1.doc.comments.map (·.id)).Nodup :=
  comment_ids_unique_of_reach (Reach_applyActions _ acts) hn

example : (([{ id := "1".toList, author := none, date := none, initials := none, paras := [], legacyParent := none, doneAttr := none },
             { id := "x7".toList, author := none, date := none, initials := none, paras := [], legacyParent := none, doneAttr := none }] :
             List Comment).map (·.id)).Nodup := by decide +kernel

/-- replies keep the comment parts linked: the reply's entry in commentsExtended (which carries the thread link)
sits at the position of the reply's comment entry -/
theorem C10_comment_parts_stay_linked_actions (d : Document) (author date : Str) (acts : List Action) (h : DocLinked d) :
    DocLinked ((Sess.open d author date).applyActions acts).1.doc :=
  linked_of_reach (Reach_applyActions _ acts) h

end Adeu.Props.C10
