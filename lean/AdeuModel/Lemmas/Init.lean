import AdeuModel.Model.Init
import AdeuModel.Lemmas.List
namespace Adeu.Init
open Adeu J

def Op.isBak : Op → Bool
  | .bakTrunc | .bakAppend _ => true
  | _ => false

theorem exec_cons (s : St) (op : Op) (ops : List Op) : exec s (op :: ops) = exec (step s op) ops := rfl

theorem exec_append (s : St) (a b : List Op) : exec s (a ++ b) = exec (exec s a) b :=
  List.foldl_append ..

theorem exec_frame {α : Type} (f : St → α) (p : Op → Prop) (hp : ∀ s op, p op → f (step s op) = f s)
    (ops : List Op) (s : St) (h : ∀ op ∈ ops, p op) : f (exec s ops) = f s :=
  foldl_keeps f (fun s op ho => hp s op (h op ho)) s

theorem step_frame (s : St) (op : Op) :
    (op.isBak = true → (step s op).cfg = s.cfg ∧ (step s op).dir = s.dir) ∧
    (op.isBak = false → (step s op).bak = s.bak) := by
  cases op <;> simp [step, Op.isBak]

theorem exec_cfg_of_bak (ops : List Op) (s : St) (h : ∀ op ∈ ops, op.isBak = true) : (exec s ops).cfg = s.cfg :=
  exec_frame (·.cfg) _ (fun s op h => ((step_frame s op).1 h).1) ops s h

theorem exec_bak_of_nonbak (ops : List Op) (s : St) (h : ∀ op ∈ ops, op.isBak = false) : (exec s ops).bak = s.bak :=
  exec_frame (·.bak) _ (fun s op => (step_frame s op).2) ops s h

theorem exec_cfg_dir_of_nonbak (ops : List Op) : ∀ (s : St), (∀ op ∈ ops, op.isBak = true) → (exec s ops).dir = s.dir :=
  exec_frame (·.dir) _ (fun s op h => ((step_frame s op).1 h).2) ops

theorem exec_bakAppend (raw : Bytes) (s : St) :
    exec s (raw.map .bakAppend) = { s with bak := s.bak.map (· ++ raw) } := by
  induction raw generalizing s with
  | nil => cases s with | mk c b d => cases b <;> simp [exec]
  | cons x r ih =>
    rw [List.map_cons, exec_cons, ih]
    cases s with | mk c b d => cases b <;> simp [step]

theorem exec_cfgAppend (raw : Bytes) (s : St) :
    exec s (raw.map .cfgAppend) = { s with cfg := s.cfg.map (· ++ raw) } := by
  induction raw generalizing s with
  | nil => cases s with | mk c b d => cases c <;> simp [exec]
  | cons x r ih =>
    rw [List.map_cons, exec_cons, ih]
    cases s with | mk c b d => cases c <;> simp [step]

theorem exec_backupOps (r : Option Bytes) (s : St) : exec s (backupOps r) = { s with bak := r.or s.bak } := by
  cases r with
  | none => rfl
  | some raw => rw [backupOps, exec_cons, exec_bakAppend]; simp [step]

theorem exec_writeOps (v : J) (s : St) :
    exec s (writeOps v) = { s with dir := true, cfg := some (toBytes (dump 0 v)) } := by
  rw [writeOps, exec_cons, exec_cons, exec_cfgAppend]; simp [step]

theorem backupOps_isBak (r : Option Bytes) : ∀ op ∈ backupOps r, op.isBak = true := by
  intro op h
  cases r with
  | none => simp [backupOps] at h
  | some raw =>
    simp only [backupOps, List.mem_cons, List.mem_map] at h
    rcases h with rfl | ⟨b, _, rfl⟩ <;> rfl

theorem writeOps_nonBak (v : J) : ∀ op ∈ writeOps v, op.isBak = false := by
  intro op h
  simp only [writeOps, List.mem_cons, List.mem_map] at h
  rcases h with rfl | rfl | ⟨b, _, rfl⟩ <;> rfl

/-- The operation list always starts with the complete backup. -/
theorem handleInit_ops (entry : J) (prior : Prior) :
    ∃ w, (handleInit entry prior).1 = backupOps prior.raw ++ w ∧ ∀ op ∈ w, op.isBak = false := by
  unfold handleInit
  simp only
  split
  · rename_i v _
    exact ⟨writeOps v, rfl, writeOps_nonBak v⟩
  · exact ⟨[], by simp, by simp⟩

theorem success_state (entry : J) (prior : Prior) (v : J)
    (h : startData prior >>= setAdeu entry = .ok v) :
    (handleInit entry prior).2 = .ok ∧
    exec (initSt prior) (handleInit entry prior).1 =
      { cfg := some (toBytes (dump 0 v)), bak := prior.raw, dir := true } := by
  have hops : handleInit entry prior = (backupOps prior.raw ++ writeOps v, .ok) := by
    unfold handleInit; simp only [h]
  rw [hops, exec_append, exec_backupOps, exec_writeOps]
  exact ⟨rfl, by simp [initSt]⟩

theorem lookup_setKey_ne (k k' : Str) (v : J) (kvs : List (Str × J)) (h : k' ≠ k) :
    lookup k' (setKey k v kvs) = lookup k' kvs := by
  fun_induction setKey k v kvs with
  | case1 => simp [lookup, Ne.symm h]
  | case2 r v' => simp [lookup, Ne.symm h]
  | case3 a b r hak ih => simp only [lookup, ih]

theorem lookup_setKey_eq (k : Str) (v : J) (kvs : List (Str × J)) :
    lookup k (setKey k v kvs) = some v := by
  fun_induction setKey k v kvs with
  | case1 => simp [lookup]
  | case2 r v' => simp [lookup]
  | case3 a b r hak ih => simp [lookup, hak, ih]

/-- keys other than `k`, in order -/
def otherKeys (k : Str) (kvs : List (Str × J)) : List (Str × J) := kvs.filter (fun p => p.1 != k)

theorem otherKeys_setKey (k : Str) (v : J) (kvs : List (Str × J)) :
    otherKeys k (setKey k v kvs) = otherKeys k kvs := by
  fun_induction setKey k v kvs with
  | case1 => simp [otherKeys]
  | case2 r v' => simp [otherKeys]
  | case3 a b r hak ih =>
    simp only [otherKeys, List.filter_cons] at ih ⊢
    rw [ih]

theorem setKey_setKey (k : Str) (v v' : J) (kvs : List (Str × J)) :
    setKey k v' (setKey k v kvs) = setKey k v' kvs := by
  fun_induction setKey k v kvs with
  | case1 => simp [setKey]
  | case2 r v'' => simp [setKey]
  | case3 a b r hak ih => simp [setKey, hak, ih]

theorem setKey_of_lookup_none (k : Str) (v : J) (kvs : List (Str × J)) (h : lookup k kvs = none) :
    setKey k v kvs = kvs ++ [(k, v)] := by
  fun_induction setKey k v kvs with
  | case1 => rfl
  | case2 r v' => simp [lookup] at h
  | case3 a b r hak ih =>
    simp only [lookup, hak, if_false] at h
    simp [ih h]

/-- `setAdeu` is two nested assignments, `data["mcpServers"] = {**servers, "adeu": entry}`, where
`servers` is the previous `mcpServers` object, or empty if there was none. -/
theorem setAdeu_ok (entry : J) (kvs : List (Str × J)) (r : J) (h : setAdeu entry (.obj kvs) = .ok r) :
    ∃ servers, (lookup mcpKey kvs = some (.obj servers) ∨ lookup mcpKey kvs = none ∧ servers = []) ∧
      r = .obj (setKey mcpKey (.obj (setKey adeuKey entry servers)) kvs) := by
  simp only [setAdeu] at h
  split at h
  · rename_i hl
    cases h
    exact ⟨[], .inr ⟨hl, rfl⟩, by rw [setKey_of_lookup_none _ _ _ hl]; rfl⟩
  · rename_i servers hl
    cases h
    exact ⟨servers, .inl hl, rfl⟩
  · cases h

end Adeu.Init
