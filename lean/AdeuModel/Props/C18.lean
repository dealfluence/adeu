import AdeuModel.Lemmas.Init
/-
C18 — `adeu init` never loses the user's Claude Desktop configuration.
All statements are about `Adeu.Init.handleInit`, the model of `adeu.cli.handle_init`
(every prior state, both modes — the mode only chooses `entry` —, every crash point).
-/
namespace Adeu.Props.C18
open Adeu Adeu.J Adeu.Init

/-- Whatever the file contained and wherever the command is interrupted (after any number `k` of
file-system operations, the final write counted byte by byte), the complete previous content is in
the configuration file or in the backup. -/
theorem C18_crash_safe (entry : J) (prior : Prior) (k : Nat) (c : Bytes) (hc : prior.raw = some c) :
    (crashAfter entry prior k).cfg = some c ∨ (crashAfter entry prior k).bak = some c := by
  obtain ⟨w, hw, hnb⟩ := handleInit_ops entry prior
  unfold crashAfter
  rw [hw]
  rcases Nat.le_total k (backupOps prior.raw).length with hk | hk
  · -- crash during the backup: the configuration file has not been touched
    left
    rw [List.take_append_of_le_length hk, exec_cfg_of_bak _ _ (fun op h => backupOps_isBak _ op (List.mem_of_mem_take h))]
    exact hc
  · -- crash later: the backup is complete and nothing touches it any more
    right
    rw [List.take_append, List.take_of_length_le hk, exec_append,
      exec_bak_of_nonbak _ _ (fun op h => hnb op (List.mem_of_mem_take h)), exec_backupOps, hc]
    rfl

/-- On success the file holds `json.dump` of the previous data with the adeu entry set, and the
backup holds the previous bytes. -/
theorem C18_success_json (entry : J) (prior : Prior) (v : J)
    (h : startData prior >>= setAdeu entry = .ok v) :
    (handleInit entry prior).2 = .ok ∧
    (exec (initSt prior) (handleInit entry prior).1).cfg = some (toBytes (dump 0 v)) ∧
    (exec (initSt prior) (handleInit entry prior).1).bak = prior.raw :=
  let ⟨a, b⟩ := success_state entry prior v h
  ⟨a, congrArg St.cfg b, congrArg St.bak b⟩

/-- Unexpected shapes (top level or `mcpServers` not an object, undecodable bytes) raise after the
backup and before any write: the configuration file is exactly as it was. -/
theorem C18_failure_untouched (entry : J) (prior : Prior) (e : Outcome)
    (h : startData prior >>= setAdeu entry = .error e) :
    (handleInit entry prior).2 = e ∧
    (exec (initSt prior) (handleInit entry prior).1).cfg = prior.raw := by
  have hops : handleInit entry prior = (backupOps prior.raw, e) := by
    unfold handleInit; simp only [h]
  rw [hops, exec_backupOps]
  exact ⟨rfl, rfl⟩

/-- Only the adeu server entry is added or replaced: every other top-level key keeps its value and
relative order, every other server keeps its value and relative order, and the entry is there. -/
theorem C18_only_adeu_changed (entry : J) (kvs : List (Str × J)) (r : J)
    (h : setAdeu entry (.obj kvs) = .ok r) :
    ∃ kvs' servers', r = .obj kvs' ∧
      otherKeys mcpKey kvs' = otherKeys mcpKey kvs ∧
      (∀ k, k ≠ mcpKey → lookup k kvs' = lookup k kvs) ∧
      lookup mcpKey kvs' = some (.obj servers') ∧
      lookup adeuKey servers' = some entry ∧
      (∀ servers, lookup mcpKey kvs = some (.obj servers) →
        otherKeys adeuKey servers' = otherKeys adeuKey servers ∧
        ∀ k, k ≠ adeuKey → lookup k servers' = lookup k servers) ∧
      (lookup mcpKey kvs = none → servers' = [(adeuKey, entry)]) := by
  obtain ⟨servers, hs, rfl⟩ := setAdeu_ok entry kvs r h
  refine ⟨_, setKey adeuKey entry servers, rfl, otherKeys_setKey _ _ _, fun k hk => lookup_setKey_ne _ _ _ _ hk,
    lookup_setKey_eq _ _ _, lookup_setKey_eq _ _ _, ?_, ?_⟩
  · intro s hl
    rcases hs with hs | ⟨hs, _⟩
    · rw [hs] at hl; cases hl
      exact ⟨otherKeys_setKey _ _ _, fun k hk => lookup_setKey_ne _ _ _ _ hk⟩
    · rw [hs] at hl; cases hl
  · intro hn
    rcases hs with hs | ⟨_, rfl⟩
    · rw [hs] at hn; cases hn
    · rfl

/-- Running the command again changes nothing: setting the entry a second time is the identity,
so the second run (which reads back what the first wrote — `json.loads ∘ json.dump = id` is the
monitored contract of Python's json) writes the same bytes. -/
theorem C18_idempotent (entry : J) (v r : J) (h : setAdeu entry v = .ok r) :
    setAdeu entry r = .ok r := by
  cases v with
  | obj kvs =>
    obtain ⟨servers, _, rfl⟩ := setAdeu_ok entry kvs r h
    simp only [setAdeu, lookup_setKey_eq, setKey_setKey]
  | _ => simp [setAdeu] at h

theorem C18_second_run_same_bytes (entry : J) (v r : J) (raw' : Bytes) (h : setAdeu entry v = .ok r) :
    (exec (initSt (.value raw' r)) (handleInit entry (.value raw' r)).1).cfg = some (toBytes (dump 0 r)) := by
  have h2 : startData (.value raw' r) >>= setAdeu entry = .ok r := by
    simp only [startData]
    exact C18_idempotent entry v r h
  exact congrArg St.cfg (success_state entry _ r h2).2

/-! Non-vacuity -/
def sampleCfg : J := .obj [("theme".toList, .str "dark".toList),
  (mcpKey, .obj [("other".toList, .obj [("command".toList, .str "x".toList)]), (adeuKey, .null)]),
  ("z".toList, .arr [.num "1".toList, .bool true])]

example : ∃ r, setAdeu prodEntry sampleCfg = .ok r := ⟨_, rfl⟩
example : (handleInit prodEntry (.value [1, 2, 3] sampleCfg)).2 = .ok := by decide +kernel
example : (handleInit prodEntry (.value [1, 2, 3] (.arr []))).2 = .attributeError := by decide +kernel
example : (crashAfter prodEntry (.value [1, 2, 3] sampleCfg) 2).cfg = some [1, 2, 3] := by decide +kernel
example : (crashAfter prodEntry (.value [1, 2, 3] sampleCfg) 8).cfg = some [123, 10] ∧
    (crashAfter prodEntry (.value [1, 2, 3] sampleCfg) 8).bak = some [1, 2, 3] := by decide +kernel

end Adeu.Props.C18
