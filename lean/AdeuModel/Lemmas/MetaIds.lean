import AdeuModel.Lemmas.Threads
/-
Layer D — which identifiers a metadata block lists.

`metaBlock` threads one `seen` list through change signatures (`Chg:id`) and comment signatures
(`Com:id`).  The two never meet: the change fold asks `seen` for change signatures only, the thread
renderer for comment signatures only.  So the fold of `metaBlock` is two folds run side by side (`Splits`,
`metaFold_split`), and a block is `chgLines` followed by `comLines`, each defined without the other:
the change lines are the lines of the (id, author) pairs of the snapshots' insertions and deletions, in
order, each id once (first author wins); the comment lines are the threads of the snapshots' comments,
rendered in order, and hold a line `[Com:id] …` for every comment that one of the snapshots has open and
that the comment map knows.
-/
namespace Adeu.Doc
open Adeu

def chgSig (id : Str) : Str := "Chg:".toList ++ id
/-- `"Com:".toList ++ id` as the renderer writes it, under a name: `simp` would take the literal apart -/
def comSig (id : Str) : Str := "Com:".toList ++ id
def chgLine (p : Str × Option Str) : Str := ['['] ++ chgSig p.1 ++ [']', ' '] ++ ((truthy p.2).getD "Unknown".toList)

/-- the change lines of a block on their own: first occurrence of every id, in order -/
def chgFold (acc : List Str × List Str) (p : Str × Option Str) : List Str × List Str :=
  if acc.2.contains p.1 then acc else (acc.1 ++ [chgLine p], acc.2 ++ [p.1])

def pairsOf (states : List Snap) : List (Str × Option Str) := states.flatMap fun s => s.ins ++ s.del

def chgLines (states : List Snap) : List Str := ((pairsOf states).foldl chgFold ([], [])).1
def chgIds (states : List Snap) : List Str := ((pairsOf states).foldl chgFold ([], [])).2

def rootsOf (states : List Snap) : List Str := states.flatMap fun s => sortBy id s.comments

/-- the comment lines of a block on their own: the threads of the snapshots' comments, rendered in order -/
def comLines (cm : CMap) (states : List Snap) : List Str :=
  ((rootsOf states).foldl (fun acc root => renderComment cm (cm.length + 1) root acc) ([], [])).1

theorem chgSig_inj {a b : Str} : chgSig a = chgSig b ↔ a = b := by simp [chgSig]

theorem chgSig_ne_comSig (a b : Str) : chgSig a ≠ comSig b := by
  unfold chgSig comSig; simp

/-- `seen` agrees with the id list on change signatures -/
def SeenOk (seen ids : List Str) : Prop := ∀ id, seen.contains (chgSig id) = ids.contains id

theorem SeenOk.add_chg {seen ids : List Str} (h : SeenOk seen ids) (x : Str) : SeenOk (seen ++ [chgSig x]) (ids ++ [x]) := by
  intro id
  have h' : chgSig id ∈ seen ↔ id ∈ ids := by simpa using h id
  simp [h', chgSig_inj]

theorem SeenOk.add_com {seen ids : List Str} (h : SeenOk seen ids) (x : Str) : SeenOk (seen ++ [comSig x]) ids := by
  intro id
  have h' : chgSig id ∈ seen ↔ id ∈ ids := by simpa using h id
  simp [h', chgSig_ne_comSig]

/-- rendering a comment thread only adds comment signatures to `seen` -/
theorem renderComment_seen (cm : CMap) : ∀ (fuel : Nat) (cid : Str) (acc : List Str × List Str) (ids : List Str),
    SeenOk acc.2 ids → SeenOk (renderComment cm fuel cid acc).2 ids :=
  fun fuel cid acc ids => renderFold_inv cm (fun a => SeenOk a.2 ids) (fun _ _ c _ _ h => h.add_com c) fuel [cid] acc

/-- one (id, author) pair's contribution to the change lines of a metadata block (the inner fold of `metaBlock`) -/
def chgStep (acc : List Str × List Str) (p : Str × Option Str) : List Str × List Str :=
  let sig := "Chg:".toList ++ p.1
  if acc.2.contains sig then acc
  else (acc.1 ++ [['['] ++ sig ++ [']', ' '] ++ ((truthy p.2).getD "Unknown".toList)], acc.2 ++ [sig])

/-- one snapshot's contribution to a metadata block (the body of `metaBlock`'s fold) -/
def metaStep (cm : CMap) (acc : List Str × List Str × List Str) (s : Snap) : List Str × List Str × List Str :=
  let (chg, com, seen) := acc
  let (chg, seen) := (s.ins ++ s.del).foldl (fun (acc : List Str × List Str) p =>
    let sig := "Chg:".toList ++ p.1
    if acc.2.contains sig then acc
    else (acc.1 ++ [['['] ++ sig ++ [']', ' '] ++ ((truthy p.2).getD "Unknown".toList)], acc.2 ++ [sig])) (chg, seen)
  let (com, seen) := (sortBy id s.comments).foldl (fun acc root => renderComment cm (cm.length + 1) root acc) (com, seen)
  (chg, com, seen)

theorem metaBlock_eq (cm : CMap) (states : List Snap) :
    metaBlock cm states =
      joinWith ['\n'] ((states.foldl (metaStep cm) ([], [], [])).1 ++ (states.foldl (metaStep cm) ([], [], [])).2.1) := rfl

theorem metaStep_eq (cm : CMap) (s : Snap) (chg com seen : List Str) :
    metaStep cm (chg, com, seen) s =
      (((s.ins ++ s.del).foldl chgStep (chg, seen)).1,
        (sortBy id s.comments).foldl (fun acc root => renderComment cm (cm.length + 1) root acc)
          (com, ((s.ins ++ s.del).foldl chgStep (chg, seen)).2)) := rfl

/-- The state `x` of `metaBlock`'s fold read as a state `a` of the change fold beside a state `b` of the comment fold:
the lines are theirs, and `seen` answers for a change signature as `a`'s ids do, for a comment signature as `b`'s
signatures do. -/
structure Splits (x : List Str × List Str × List Str) (a b : List Str × List Str) : Prop where
  chg : x.1 = a.1
  com : x.2.1 = b.1
  ids : SeenOk x.2.2 a.2
  sigs : ∀ id, x.2.2.contains (comSig id) = b.2.contains (comSig id)

theorem Splits.add_chg {chg com seen : List Str} {a b : List Str × List Str} (h : Splits (chg, com, seen) a b)
    (p : Str × Option Str) :
    Splits (chg ++ [chgLine p], com, seen ++ [chgSig p.1]) (a.1 ++ [chgLine p], a.2 ++ [p.1]) b :=
  ⟨congrArg (· ++ [chgLine p]) h.chg, h.com, h.ids.add_chg p.1, fun id => by
    simpa [(chgSig_ne_comSig p.1 id).symm] using h.sigs id⟩

theorem Splits.add_com {chg com seen : List Str} {a : List Str × List Str} {l s : List Str}
    (h : Splits (chg, com, seen) a (l, s)) (cid line : Str) :
    Splits (chg, com ++ [line], seen ++ [comSig cid]) a (l ++ [line], s ++ [comSig cid]) :=
  ⟨h.chg, congrArg (· ++ [line]) h.com, h.ids.add_com cid, fun id => by
    rw [List.contains_append, List.contains_append, h.sigs id]⟩

theorem metaStep_split (cm : CMap) (s : Snap) {chg com seen : List Str} {a b : List Str × List Str}
    (h : Splits (chg, com, seen) a b) :
    Splits (metaStep cm (chg, com, seen) s) ((s.ins ++ s.del).foldl chgFold a)
      ((sortBy id s.comments).foldl (fun acc root => renderComment cm (cm.length + 1) root acc) b) := by
  rw [metaStep_eq]
  -- the renderer keeps the relation, started from what the change fold leaves
  refine renderFold_rel cm (fun u b' => Splits (_, u.1, u.2) _ b') (fun _ _ id h => h.sigs id)
    (fun _ _ _ _ c line _ h => h.add_com c line) _ _ (com, _) b ?_
  refine List.foldl_rel (r := fun (u a' : List Str × List Str) => Splits (u.1, com, u.2) a' b) h fun p _ u a' h => ?_
  -- `seen` and the ids answer alike for `p`, so both folds skip it or both write its line
  have hc : u.2.contains ("Chg:".toList ++ p.1) = a'.2.contains p.1 := h.ids p.1
  simp only [chgStep, chgFold, hc]
  split
  · exact h
  · exact h.add_chg p

/-- **The fold of `metaBlock` is the change fold beside the comment fold.** -/
theorem metaFold_split (cm : CMap) : ∀ (states : List Snap) (x : List Str × List Str × List Str) (a b : List Str × List Str),
    Splits x a b →
    Splits (states.foldl (metaStep cm) x) ((pairsOf states).foldl chgFold a)
      ((rootsOf states).foldl (fun acc root => renderComment cm (cm.length + 1) root acc) b)
  | [], _, _, _, h => h
  | s :: rest, (chg, com, seen), a, b, h => by
    -- both lists start with this snapshot's share, and the folds over them split there
    rw [show pairsOf (s :: rest) = (s.ins ++ s.del) ++ pairsOf rest from rfl,
      show rootsOf (s :: rest) = sortBy id s.comments ++ rootsOf rest from rfl,
      List.foldl_append (l := s.ins ++ s.del), List.foldl_append (l := sortBy id s.comments)]
    exact metaFold_split cm rest _ _ _ (metaStep_split cm s h)

theorem metaFold_lines (cm : CMap) (states : List Snap) :
    (states.foldl (metaStep cm) ([], [], [])).1 = chgLines states ∧
    (states.foldl (metaStep cm) ([], [], [])).2.1 = comLines cm states :=
  have h := metaFold_split cm states ([], [], []) ([], []) ([], []) ⟨rfl, rfl, fun _ => rfl, fun _ => rfl⟩
  ⟨h.chg, h.com⟩

/-- A metadata block is its change lines followed by its comment lines; neither half depends on the other. -/
theorem metaBlock_split (cm : CMap) (states : List Snap) :
    metaBlock cm states = joinWith ['\n'] (chgLines states ++ comLines cm states) := by
  rw [metaBlock_eq, (metaFold_lines cm states).1, (metaFold_lines cm states).2]

theorem chgFold_ids (acc : List Str × List Str) (p : Str × Option Str) (id : Str) :
    id ∈ (chgFold acc p).2 ↔ id ∈ acc.2 ∨ id = p.1 := by
  unfold chgFold
  split
  · rename_i hc
    exact (or_iff_left_of_imp fun e => e ▸ List.contains_iff_mem.1 hc).symm
  · rw [List.mem_append, List.mem_singleton]

/-- A metadata block lists a change id iff one of its snapshots has that insertion or deletion open;
each listed id once, one line per id. -/
theorem chgIds_spec (states : List Snap) :
    (chgIds states).Nodup ∧ (chgLines states).length = (chgIds states).length ∧
    ∀ id, id ∈ chgIds states ↔ ∃ s ∈ states, id ∈ (s.ins ++ s.del).map (·.1) := by
  have inv : (chgIds states).Nodup ∧ (chgLines states).length = (chgIds states).length := by
    refine List.foldlRecOn (motive := fun a => a.2.Nodup ∧ a.1.length = a.2.length) _ chgFold ⟨List.nodup_nil, rfl⟩
      fun a ⟨h1, h2⟩ p _ => ?_
    unfold chgFold
    split
    · exact ⟨h1, h2⟩
    · rename_i hc
      -- a new id gets a line of its own
      exact ⟨List.nodup_append.2 ⟨h1, List.pairwise_singleton _ _, fun x hx y hy e =>
        hc (List.contains_iff_mem.2 (List.mem_singleton.1 hy ▸ e ▸ hx))⟩, by simp [h2]⟩
  refine ⟨inv.1, inv.2, fun id => ?_⟩
  have mem : ∀ (ps : List (Str × Option Str)) (acc : List Str × List Str),
      id ∈ (ps.foldl chgFold acc).2 ↔ id ∈ acc.2 ∨ id ∈ ps.map (·.1) := by
    intro ps
    induction ps with
    | nil => simp
    | cons p rest ih => intro acc; rw [List.foldl_cons, ih, chgFold_ids, List.map_cons, List.mem_cons, or_assoc]
  unfold chgIds
  rw [mem]
  simp only [List.not_mem_nil, false_or, pairsOf, List.map_flatMap, List.mem_flatMap]

/-- A metadata block has a line `[Com:id] …` for every comment that one of its snapshots has open and the comment map
knows: the comment is among the roots the renderer is run on, so its signature is written, and every signature written
has its line. -/
theorem comLines_lists (cm : CMap) (states : List Snap) (s : Snap) (hs : s ∈ states) (cid : Str) (hc : cid ∈ s.comments)
    (d : CData) (hd : cmGet cm cid = some d) : ∃ l ∈ comLines cm states, comHead cid <+: l :=
  rendered_linesOk cm _ (rootsOf states) ([], []) (fun _ h => nomatch h) cid
    (roots_seen cm cm.length _ cid d hd (List.mem_flatMap.2 ⟨s, hs, (mem_sortBy id s.comments cid).2 hc⟩) _)

end Adeu.Doc
