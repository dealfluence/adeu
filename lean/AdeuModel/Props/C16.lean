import AdeuModel.Lemmas.Style
import AdeuModel.Lemmas.InlineMd
/-
C16 — inserted text blends in: context formatting inherited, Markdown rendered.
`insRuns text style suppress` are the runs `track_insert` creates for one line; `style` is the run
the engine chose as style source — an original run of the same paragraph adjacent to the
insertion point (`anchor`, `next run` or the last deleted run; see `placeInsertion` / `replaceTargets`).
-/
namespace Adeu.Props.C16
open Adeu Adeu.Doc

/-- Every inserted run carries the font / size / colour / character-style properties of the style
source rather than document defaults. -/
theorem C16_inherits (text : Str) (style : Option Run) (sup : Bool) :
    ∀ c ∈ insRuns text style sup, ∃ r, c = InsChild.run r ∧ r.rest = (style.map (·.rest)).getD [] := by
  intro c hc
  obtain ⟨seg, _, rfl⟩ := List.mem_map.mp hc
  refine ⟨_, rfl, ?_⟩
  -- `_apply_run_props` sets bold / italic only: `rest` is the style source's in both branches
  exact (apply_ite Run.rest ..).trans (ite_self _)

/-- The style source of a pure insertion (`_determine_style_source` as `placeInsertion` applies it): the anchor
run, or the run that follows it when the new text ends with a blank — in either case an original run of the
*same paragraph* adjacent to the insertion point (`runsOfNodes p.nodes`: direct runs and runs inside
insertions / deletions / hyperlinks of that paragraph), never a run of another paragraph or a document default.
Together with `C16_inherits` this is the inheritance clause for insertions. -/
theorem C16_style_source_in_paragraph (p : Para) (a : RunRef) (before : Bool) (newText : Str) (r : Run)
    (h : (if before then getRun p.nodes a.loc
          else match nextRun p.nodes a.loc with
            | none => getRun p.nodes a.loc
            | some nr => if endsWithSpace newText then some nr else getRun p.nodes a.loc) = some r) :
    r ∈ runsOfNodes p.nodes := by
  split at h
  · exact getRun_mem _ _ _ h
  · split at h
    · exact getRun_mem _ _ _ h
    · rename_i nr hn
      split at h
      · injection h with h; subst h; exact nextRun_mem _ _ _ hn
      · exact getRun_mem _ _ _ h

/-- New text without a well-formed span is inserted literally, character for character, as one run.
"Well-formed span" is `findSpan`: `**x**` with non-empty content that neither starts nor ends with
white space; `_x_` likewise, whose underscores touch no word character or underscore on the outside. -/
theorem C16_literal (t : Str) (style : Option Run) (sup : Bool) (ht : t ≠ []) (h : findSpan t.toArray = none) :
    (insRuns t style sup).map (fun c => match c with | .run r => r.ch | _ => []) = [[.t t]] := by
  simp [insRuns, inlineSegs_literal t ht h]

/-- Rendering never loses or invents text: the characters of the runs created for one inserted line are a subsequence of
the new text, and every character that is not a `*` or `_` is kept, in order - the only characters `_parse_inline_markdown`
can drop are span delimiters (`findSpan_spec`: a removed pair is `**…**` or `_…_` as the pattern demands). Every new
text, every style source. -/
theorem C16_only_markers_removed (t : Str) (style : Option Run) (sup : Bool) :
    List.Sublist ((insRuns t style sup).flatMap insChildText) t ∧
    ((insRuns t style sup).flatMap insChildText).filter notMarker = t.filter notMarker := by
  rw [insRuns_chars]
  exact parseInline_text _ t false false

/-- `#` lines become heading-styled paragraphs (`lineParas`), other lines keep the anchor
paragraph's properties. -/
theorem C16_heading_style (level : Nat) : headingStyleId level = "Heading".toList ++ natStr level := rfl

theorem dropWhile_hashes (n : Nat) (r : Str) (hr : r.head? ≠ some '#') :
    (List.replicate n '#' ++ r).dropWhile (· = '#') = r := by
  rw [List.dropWhile_append_of_pos fun a ha => by simp [List.eq_of_mem_replicate ha]]
  cases r with
  | nil => rfl
  | cons c rest => exact List.dropWhile_cons_of_neg (by simpa using fun e => hr (by simp [e]))

/-- A line `#…# title` (n ≥ 1 hashes, a blank, then the title) is a heading of level n whose text is the title without the
prefix; `lineParas` gives it the style `Heading n` (C16_heading_style). -/
theorem C16_heading_line (n : Nat) (title : Str) (hn : 0 < n) :
    parseMdStyle (List.replicate n '#' ++ ' ' :: title) = (stripStr Trim.pyIsSpace (' ' :: title), some n) := by
  unfold parseMdStyle
  have hh : (List.replicate n '#' ++ ' ' :: title).head? = some '#' := by
    cases n with
    | zero => omega
    | succ k => simp [List.replicate_succ]
  have hd := dropWhile_hashes n (' ' :: title) (by simp)
  simp only [hh, ↓reduceIte, hd, List.head?_cons, List.length_append, List.length_replicate, List.length_cons]
  rw [Nat.add_sub_cancel]

/-- A line that starts with `#` but has no blank behind the hashes (`#1 priority`, `#hashtag`) is not a heading and keeps
every character. -/
theorem C16_hash_line_kept (text : Str) (h : (text.dropWhile (· = '#')).head? ≠ some ' ') :
    parseMdStyle text = (text, none) := by
  unfold parseMdStyle
  split
  · simp only [h, ↓reduceIte]
  · rfl

/-! Test vectors.  Evaluating `String.toList` on a literal is quadratic in the kernel; `String.toList_ofList` reads the
characters off the literal instead. -/
example : parseMdStyle "## Scope of work".toList = ("Scope of work".toList, some 2) := by
  repeat rw [String.toList_ofList]
  decide +kernel
example : parseMdStyle "#1 priority".toList = ("#1 priority".toList, none) := by
  repeat rw [String.toList_ofList]
  decide +kernel

example : inlineSegs "[___] fee".toList = [⟨"[___] fee".toList, false, false⟩] := by
  repeat rw [String.toList_ofList]
  decide +kernel
example : inlineSegs "snake_case_name".toList = [⟨"snake_case_name".toList, false, false⟩] := by
  repeat rw [String.toList_ofList]
  decide +kernel
example : inlineSegs "**bold** and _it_".toList =
    [⟨"bold".toList, true, false⟩, ⟨" and ".toList, false, false⟩, ⟨"it".toList, false, true⟩] := by
  repeat rw [String.toList_ofList]
  decide +kernel

example : (insRuns "pay **all** fees _now_".toList none false).flatMap insChildText = "pay all fees now".toList := by
  repeat rw [String.toList_ofList]
  decide +kernel

end Adeu.Props.C16
