import AdeuModel.Lemmas.LGrow
import AdeuModel.Lemmas.ComGrow
import AdeuModel.Lemmas.Engine
import AdeuModel.Lemmas.Attr
import AdeuModel.Lemmas.AttrHistory
/-
C09 — saved output is structurally valid revision and comment markup (model-level clauses).
-/
namespace Adeu.Props.C09
open Adeu Adeu.Doc

/-- Every mark created by a session carries that session's author and date, and the next id. -/
theorem C09_mark_attribution (s : Sess) :
    (s.newRev).2.author = some s.author ∧ (s.newRev).2.date = some s.date ∧
    (s.newRev).2.id = natStr (s.nextRev + 1) ∧ (s.newRev).1.nextRev = s.nextRev + 1 :=
  newRev_attrib s

/-- New revision ids exceed every numeric id present in the main part and in the reachable header / footer parts at load: ids stay unique
within the main part whenever the input's were. -/
theorem C09_ids_fresh (d : Document) (author date : Str) (bs : List Block) (n : Node) (rev : Rev) (k : Nat)
    (hbs : bs ∈ docParts (normalize d)) (hn : n ∈ allNodesBlocks bs) (hform : revOf n = some rev)
    (hk : strNat? rev.id = some k) :
    k < (Sess.open d author date).nextRev + 1 :=
  newRev_fresh d author date bs n rev k hbs hn hform hk

/-- Whole batches (offset-addressed and searched edits mixed; applied, skipped, matched fuzzily, inside or across
another reviewer's insertion — the non-literal matcher is an arbitrary parameter): **every** revision mark of
**every** story of the result is either one of the marks the document had when the session was opened — same id,
same author, same date: nobody else's change is re-attributed or re-dated — or a mark of this session: it carries
the session's author and the session's date, and its id was handed out after the ids scanned when the session was
opened (`revsDoc`: the `w:ins` / `w:del` that are paragraph children, read off the canonical content stream). -/
theorem C09_marks_attributed (s : Sess) (edits : List HEdit) :
    ∀ x ∈ revsDoc (Doc.applyEdits s edits).1.doc,
      x ∈ revsDoc s.doc ∨
      (x.author = some s.author ∧ x.date = some s.date ∧
        ∃ k, s.nextRev < k ∧ k ≤ (Doc.applyEdits s edits).1.nextRev ∧ x.id = natStr k) :=
  (RevOk_applyEdits s edits).revs

/-- The ids of the marks a session adds lie above every numeric revision id the opened document carries in the
stories the engine reaches (main part, reachable headers / footers): a mark created by the session never shares its
id with a mark that was already there — ids stay unique across what was there and what is new. -/
theorem C09_new_ids_above_old (d : Document) (author date : Str) (edits : List HEdit) (x : Rev)
    (hx : x ∈ revsDoc (Doc.applyEdits (Sess.open d author date) edits).1.doc)
    (hnew : x ∉ revsDoc (Sess.open d author date).doc) :
    ∃ k, x.id = natStr k ∧ x.author = some author ∧ x.date = some date ∧
      ∀ bs ∈ docParts (normalize d), ∀ n ∈ allNodesBlocks bs, ∀ rev k', revOf n = some rev → strNat? rev.id = some k' → k' < k :=
  new_ids_above_old d author date edits x hx hnew

/-- A new comment is listed exactly once in the comments part and once in each auxiliary part. -/
theorem C09_comment_parts (s : Sess) (text : Str) (parent : Option Str) :
    (s.addComment text parent).1.doc.comments.length = s.doc.comments.length + 1 ∧
    (s.addComment text parent).1.doc.commentsEx.length = s.doc.commentsEx.length + 1 ∧
    (s.addComment text parent).1.doc.commentsIds.length = s.doc.commentsIds.length + 1 ∧
    (s.addComment text parent).1.doc.commentsCex.length = s.doc.commentsCex.length + 1 := by
  have h := addComment_spec s text parent
  exact ⟨by rw [h.comments]; simp, h.commentsEx, h.commentsIds, h.commentsCex⟩

/-- Deleted-text elements are produced only inside the `w:del` a deletion creates. -/
theorem C09_deltext_only_in_del (r : Run) (rev : Rev) :
    deleteRunNodes [.run r] ⟨0, none⟩ rev = [.del rev [r.deleted]] := by
  simp [deleteRunNodes, replaceRun]

/-- The id of a mark a run adds differs from the id of **every** mark the opened document carries in the stories
the engine reaches - numeric or not: the new id is a decimal numeral above every numeral found at load, and a numeral
reads back as its number. -/
theorem C09_new_ids_differ_from_old (d : Document) (author date : Str) (edits : List HEdit) (x : Rev)
    (hx : x ∈ revsDoc (Doc.applyEdits (Sess.open d author date) edits).1.doc)
    (hnew : x ∉ revsDoc (Sess.open d author date).doc) :
    ∀ bs ∈ docParts (normalize d), ∀ n ∈ allNodesBlocks bs, ∀ rev, revOf n = some rev → rev.id ≠ x.id := by
  obtain ⟨k, hk, _, _, habove⟩ := new_ids_above_old d author date edits x hx hnew
  intro bs hbs n hn rev hr heq
  exact Nat.lt_irrefl k (habove bs hbs n hn rev k hr (by rw [heq, hk]; exact strNat?_natStr k))

/-- The comments part keeps pairwise distinct ids (one `w:comment` per id) after any batch. -/
theorem C09_comment_ids_stay_unique (d : Document) (author date : Str) (edits : List HEdit)
    (hn : ((normalize d).comments.map (·.id)).Nodup) :
    ((Doc.applyEdits (Sess.open d author date) edits).1.doc.comments.map (·.id)).Nodup :=
  comment_ids_unique_of_reach (Reach_applyEdits _ edits) hn

example : strNat? (natStr 41) = some 41 := strNat?_natStr 41

/-- **The comment parts stay linked.**  If in the opened document entry `i` of comments.xml, commentsExtended,
commentsIds and commentsExtensible belong together (paragraph id of the comment's last paragraph = id of the extended
entry = key of the ids entry; durable id of the ids entry = key of the extensible entry), then so they do after any
batch: every comment a run adds brings exactly one entry in each part, with matching ids, at the same position. -/
theorem C09_comment_parts_stay_linked (d : Document) (author date : Str) (edits : List HEdit) (h : DocLinked d) :
    DocLinked (Doc.applyEdits (Sess.open d author date) edits).1.doc :=
  linked_of_reach (Reach_applyEdits _ edits) h

example : DocLinked { (default : Document) with
    comments := [{ id := "1".toList, author := none, date := none, initials := none,
                   paras := [{ paraId := some "AA".toList, text := [] }], legacyParent := none, doneAttr := none }],
    commentsEx := [{ paraId := some "AA".toList, parent := none, done := none }],
    commentsIds := [("AA".toList, "D1".toList)], commentsCex := [("D1".toList, "NOW".toList)] } := by
  simp [DocLinked, linked4]

end Adeu.Props.C09
