import AdeuModel.Model.Engine
import AdeuModel.Lemmas.List
namespace Adeu.Doc
open Adeu

def canonAtoms (f : Fmt) (l : List Atom) : List CItem := l.flatMap (canonAtom f)

theorem canonAtoms_cons (f : Fmt) (a : Atom) (l : List Atom) :
    canonAtoms f (a :: l) = canonAtom f a ++ canonAtoms f l := by simp [canonAtoms]

theorem canonAtoms_joinText (f : Fmt) (l : List Atom) : canonAtoms f (joinText l) = canonAtoms f l := by
  fun_induction joinText l with
  | case1 a b rest ih => rw [ih]; simp [canonAtoms_cons, canonAtom, List.map_append]
  | case2 a b rest ih => rw [ih]; simp [canonAtoms_cons, canonAtom, List.map_append]
  | case3 a rest h1 h2 ih => simp [canonAtoms_cons, ih]
  | case4 => simp []

theorem splitAtoms_right (l : List Atom) : ∀ (c k : Nat), c ≥ k → splitAtoms l c k = ([], l) := by
  induction l with
  | nil => intro c k _; rfl
  | cons a rest ih =>
    intro c k h
    rw [splitAtoms, ih (c + a.width) k (Nat.le_trans h (Nat.le_add_right _ _))]
    exact if_pos h

/-- Dividing the children of a run at an offset keeps every child exactly once and in order. -/
theorem canonAtoms_splitAtoms (f : Fmt) (l : List Atom) : ∀ (c k : Nat),
    canonAtoms f (splitAtoms l c k).1 ++ canonAtoms f (splitAtoms l c k).2 = canonAtoms f l := by
  induction l with
  | nil => intro c k; simp [splitAtoms, canonAtoms]
  | cons a rest ih =>
    intro c k
    by_cases h1 : c ≥ k
    · rw [splitAtoms_right _ _ _ h1]; rfl
    · by_cases h2 : c + a.width ≤ k
      · simp only [splitAtoms, h1, h2, ↓reduceIte, canonAtoms_cons, List.append_assoc, ih]
      · -- the child straddles the split point: everything behind it goes right
        have hr := splitAtoms_right rest (c + a.width) k (Nat.le_of_lt (Nat.lt_of_not_le h2))
        simp only [splitAtoms, h1, h2, ↓reduceIte, hr]
        cases a with
        | t s | dt s =>
          simp only [canonAtoms, List.flatMap_cons, List.flatMap_nil, List.append_nil, canonAtom]
          rw [← List.append_assoc, ← List.map_append, List.take_append_drop]
        | _ => rfl

theorem canonRun_eq (r : Run) : canonRun r = canonAtoms r.fmt r.ch := rfl

/-- `_split_run_at_index` changes no content. -/
theorem canonRun_splitRun (r : Run) (k : Nat) :
    canonRun (splitRun r k).1 ++ canonRun (splitRun r k).2 = canonRun r := by
  simp only [splitRun, canonRun_eq]
  have h := canonAtoms_splitAtoms r.fmt r.ch 0 k
  have e1 : ({ r with ch := joinText (splitAtoms r.ch 0 k).1 } : Run).fmt = r.fmt := rfl
  have e2 : ({ r with ch := joinText (splitAtoms r.ch 0 k).2 } : Run).fmt = r.fmt := rfl
  simp only [e1, e2, canonAtoms_joinText]
  exact h

/-- the run carries no deleted text (`w:delText`) -/
def noDt (r : Run) : Bool := r.ch.all fun | .dt _ => false | _ => true

/-- deleting a run and restoring it gives the run back when it carried no deleted text before -/
theorem undelete_deleted (r : Run) (h : noDt r = true) : r.deleted.undelete = r := by
  have hch : (r.ch.map Atom.delete).map Atom.undelete = r.ch := by
    rw [List.map_map]
    refine (List.map_congr_left fun a ha => ?_).trans (List.map_id _)
    -- deleting and restoring changes `w:delText` only, and `h` says there is none
    cases a with
    | dt s => exact absurd (List.all_eq_true.mp h _ ha) Bool.false_ne_true
    | _ => rfl
  cases r
  exact congrArg (Run.mk _ _ _ · _) hch

/-- `track_delete_run` followed by rejecting that deletion is the identity on the paragraph child. -/
theorem reject_trackDelete_node (r : Run) (rev : Rev) (h : noDt r = true) :
    rejectN rev.id (.del rev [r.deleted]) = [.run r] := by
  simp [rejectN, undelete_deleted r h]

theorem acceptN_del (rev : Rev) (runs : List Run) : acceptN rev.id (.del rev runs) = [] :=
  if_pos rfl

theorem accept_trackDelete_node (r : Run) (rev : Rev) : acceptN rev.id (.del rev [r.deleted]) = [] :=
  acceptN_del rev _

theorem accept_inserted_node (rev : Rev) (ch : List InsChild) :
    acceptN rev.id (.ins rev ch) = ch.map InsChild.toNode :=
  if_pos rfl

/-- one review action on a paragraph child: accept (`true`) or reject (`false`) change `id` -/
def actN (acc : Bool) (id : Str) : Node → List Node := if acc then acceptN id else rejectN id

def revOf : Node → Option Rev
  | .ins rev _ | .del rev _ => some rev
  | _ => none

/-- no child of the list is a revision mark (a Bool, so that for concrete range markers and reference runs it holds by `rfl`) -/
def noMarks (ns : List Node) : Bool := ns.all fun n => (revOf n).isNone

theorem revOf_of_noMarks {ns : List Node} (h : noMarks ns = true) {n : Node} (hn : n ∈ ns) : revOf n = none :=
  Option.isNone_iff_eq_none.mp (List.all_eq_true.mp h n hn)

theorem toNode_revOf (c : InsChild) : revOf c.toNode = none := by cases c <;> rfl

/-- after accept-all no child is a mark: an insertion leaves its children, a deletion nothing, any other child itself -/
theorem acceptAllN_revOf (n m : Node) (hm : m ∈ acceptAllN n) : revOf m = none := by
  cases n with
  | ins rev ch => obtain ⟨c, _, rfl⟩ := List.mem_map.mp hm; exact toNode_revOf c
  | del rev runs => cases hm
  | _ => rw [List.mem_singleton.mp hm]; rfl

theorem hasRevN_of_revOf {m : Node} (h : revOf m = none) (j : Str) : hasRevN j m = false := by
  cases m <;> first | rfl | cases h

/-- One review action at one paragraph child: a child that does not carry the id stays as it is; one that does is replaced
by children that are no marks (the content of the insertion, the runs of the deletion) or by nothing. -/
theorem actN_spec (acc : Bool) (id : Str) (n : Node) :
    hasRevN id n = false ∧ actN acc id n = [n] ∨ hasRevN id n = true ∧ ∀ m ∈ actN acc id n, revOf m = none := by
  cases n with
  | ins rev ch =>
    by_cases h : rev.id = id
    · refine .inr ⟨decide_eq_true h, fun m hm => ?_⟩
      cases acc
      · simp [actN, rejectN, h] at hm
      · simp [actN, acceptN, h] at hm
        obtain ⟨c, _, rfl⟩ := hm
        exact toNode_revOf c
    · exact .inl ⟨decide_eq_false h, by cases acc <;> simp [actN, acceptN, rejectN, h]⟩
  | del rev runs =>
    by_cases h : rev.id = id
    · refine .inr ⟨decide_eq_true h, fun m hm => ?_⟩
      cases acc
      · simp [actN, rejectN, h] at hm
        obtain ⟨r, _, rfl⟩ := hm
        rfl
      · simp [actN, acceptN, h] at hm
    · exact .inl ⟨decide_eq_false h, by cases acc <;> simp [actN, acceptN, rejectN, h]⟩
  | _ => exact .inl ⟨rfl, by cases acc <;> rfl⟩

theorem actN_other (acc : Bool) (id : Str) (n : Node) (h : hasRevN id n = false) : actN acc id n = [n] :=
  (actN_spec acc id n).elim (·.2) fun h' => absurd (h ▸ h'.1) Bool.false_ne_true

theorem actN_flatMap_unknown (acc : Bool) (id : Str) (ns : List Node) (h : ∀ n ∈ ns, hasRevN id n = false) :
    ns.flatMap (actN acc id) = ns :=
  flatMap_eq_self _ ns fun n hn => actN_other acc id n (h n hn)

/-- replace the plain run at child index `i` by a tracked deletion and put a tracked insertion
right behind it (what `_apply_single_edit_indexed` does to the last target run) -/
def replaceAt (ns : List Node) (i : Nat) (dRev iRev : Rev) (ch : List InsChild) : List Node :=
  match ns[i]? with
  | some (.run r) => ns.take i ++ [.del dRev [r.deleted], .ins iRev ch] ++ ns.drop (i + 1)
  | _ => ns

theorem replaceAt_run {ns : List Node} {i : Nat} {r : Run} (dRev iRev : Rev) (ch : List InsChild)
    (hi : ns[i]? = some (.run r)) :
    replaceAt ns i dRev iRev ch = ns.take i ++ [.del dRev [r.deleted], .ins iRev ch] ++ ns.drop (i + 1) := by
  unfold replaceAt
  rw [hi]

theorem newRev_attrib (s : Sess) : (s.newRev).2.author = some s.author ∧ (s.newRev).2.date = some s.date ∧
    (s.newRev).2.id = natStr (s.nextRev + 1) ∧ (s.newRev).1.nextRev = s.nextRev + 1 := by
  simp [Sess.newRev]

/-- the id handed out next is larger than every numeric id scanned at load (main part, headers,
footers), hence new -/
theorem newRev_fresh (d : Document) (author date : Str) (bs : List Block) (n : Node) (rev : Rev) (k : Nat)
    (hbs : bs ∈ docParts (normalize d))
    (hn : n ∈ allNodesBlocks bs) (hform : revOf n = some rev) (hk : strNat? rev.id = some k) :
    k < (Sess.open d author date).nextRev + 1 := by
  have h1 : k ≤ maxRevIdNodes (allNodesBlocks bs) := by
    refine (foldl_max revMax (fun m n => ?_) _ 0).2 n hn k fun m => ?_
    · unfold revMax; split <;> (try split) <;> omega
    · cases n with
      | ins _ _ | del _ _ => cases hform; simp only [revMax, hk]; exact Nat.le_max_right m k
      | _ => cases hform
  have h2 := (foldl_max (fun m bs => max m (maxRevIdNodes (allNodesBlocks bs))) (fun _ _ => Nat.le_max_left _ _)
    (docParts (normalize d)) 0).2 bs hbs _ fun _ => Nat.le_max_right _ _
  have h3 : (Sess.open d author date).nextRev ≥
      (docParts (normalize d)).foldl (fun m bs => max m (maxRevIdNodes (allNodesBlocks bs))) 0 := by
    show scanRevIds (normalize d) ≥ _
    unfold scanRevIds
    exact Nat.le_max_left _ _
  exact Nat.lt_succ_of_le (Nat.le_trans h1 (Nat.le_trans h2 h3))

/-- what `add_comment` does, said of its result `r`: the new entry at the end of the comments part, under the id handed out;
one more entry in each of the three other parts; the stories are as they were -/
structure AddsComment (s : Sess) (text : Str) (r : Sess × Str) : Prop where
  comments : r.1.doc.comments = s.doc.comments ++
    [{ id := r.2, author := some s.author, date := some "NOW".toList, initials := initials s.author,
       paras := [{ paraId := some (freshId s.fresh), text := [text] }], legacyParent := none, doneAttr := none }]
  id : r.2 = natStr s.nextCom
  nextCom : r.1.nextCom = s.nextCom + 1
  body : r.1.doc.body = s.doc.body
  headers : r.1.doc.headers = s.doc.headers
  footers : r.1.doc.footers = s.doc.footers
  commentsEx : r.1.doc.commentsEx.length = s.doc.commentsEx.length + 1
  commentsIds : r.1.doc.commentsIds.length = s.doc.commentsIds.length + 1
  commentsCex : r.1.doc.commentsCex.length = s.doc.commentsCex.length + 1

theorem addComment_spec (s : Sess) (text : Str) (parent : Option Str) : AddsComment s text (s.addComment text parent) := by
  constructor <;> simp [Sess.addComment]

end Adeu.Doc
