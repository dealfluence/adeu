import AdeuModel.Props.C14
/-
C15 — preview and commit agree on what will change (text side).

For exact, unique, non-overlapping targets with balanced formatting markers the preview marks every
edit, exactly at the occurrence of its target, and its accepted reading is the simultaneous
replacement of the targets by the new texts — the reference semantics the commit is held to by
C02 / C12 (accepted view of the committed document == the same replacement; decided there by the
whole-document correspondence and oracle, hence `_partial` here).
-/
namespace Adeu.Props.C15
open Adeu Adeu.Markup Adeu.Props.C14

/-- the four marker counts of a target are even: the safe-boundary step leaves its range alone -/
def Balanced (t : Str) : Prop :=
  count mBold t % 2 = 0 ∧ count mUU t % 2 = 0 ∧ count mU t % 2 = 0 ∧ count mStar t % 2 = 0

theorem expand_balanced (text marker : Str) (se : Nat × Nat)
    (h : count marker (slice text se.1 se.2) % 2 = 0) : expand text marker se = se := by
  unfold expand
  simp [h]

/-- a range with balanced markers is left alone by a round of the safe-boundary step -/
theorem expandRound_balanced (text : Str) (se : Nat × Nat) (h : Balanced (slice text se.1 se.2)) :
    expandRound text se = se := by
  unfold expandRound
  rw [expand_balanced text mBold se h.1, expand_balanced text mUU se h.2.1, expand_balanced text mU se h.2.2.1,
    expand_balanced text mStar se h.2.2.2]

/-- an exact occurrence with balanced markers is matched as it stands -/
theorem findMatch_exact (text target : Str) (fz : Option (Nat × Nat)) (i : Nat)
    (hne : target ≠ []) (hf : find target text = some i) (hb : Balanced target) :
    findMatch text target fz = some (i, i + target.length) := by
  have hs : slice text i (i + target.length) = target := by
    obtain ⟨a, b, rfl, rfl⟩ := findFrom_spec target text 0 i hf
    simp [slice]
  rw [← hs] at hb
  have e1 := expandRound_balanced text (i, i + target.length) hb
  unfold findMatch safeBounds
  rw [if_neg (mt List.isEmpty_iff.mp hne), hf]
  exact congrArg some ((congrArg (expandRound text) e1).trans e1)

/-- Every edit of a list with exact, balanced, pairwise non-overlapping targets is marked: the kept
matches are the matches of all edits (one per edit, in some order). -/
theorem C15_all_marked (text : Str) (edits : List MEdit)
    (hdis : (matchesFrom text edits 0).Pairwise NonOverlap) :
    (keptDesc text edits).Perm (matchesFrom text edits 0) := by
  unfold keptDesc
  have := filterOverlap_all (matchesFrom text edits 0) [] (by simpa using hdis)
  rw [this]
  simpa using List.mergeSort_perm (matchesFrom text edits 0) _

/-- one match per edit when every target is found exactly -/
theorem matchesFrom_exact (text : Str) : ∀ (edits : List MEdit) (k : Nat) (pos : List Nat),
    pos.length = edits.length →
    (∀ j (h : j < edits.length), (edits[j]).target ≠ [] ∧ find (edits[j]).target text = some (pos[j]!) ∧
      Balanced (edits[j]).target) →
    matchesFrom text edits k =
      (List.range edits.length).map fun j => ⟨pos[j]!, pos[j]! + (edits[j]!).target.length, k + j⟩ := by
  intro edits k pos _ h
  have hone : ∀ p ∈ edits.zipIdx k, matchOf text p =
      [⟨pos[p.2 - k]!, pos[p.2 - k]! + p.1.target.length, p.2⟩] := fun ⟨ed, j⟩ hp => by
    obtain ⟨_, he⟩ := List.mem_zipIdx_iff_le_and_getElem?_sub.mp hp
    obtain ⟨hj, he⟩ := List.getElem?_eq_some_iff.mp he
    obtain ⟨h1, h2, h3⟩ := h _ hj
    rw [he] at h1 h2 h3
    exact matchOf_some j (findMatch_exact text _ ed.fz _ h1 h2 h3) (Nat.lt_add_of_pos_right (List.length_pos_iff.mpr h1))
  -- one match per edit; what is left is to count the edits by `range` instead of `zipIdx`
  rw [matchesFrom_eq, flatMap_congr hone, ← List.map_eq_flatMap]
  refine List.ext_getElem (by rw [List.length_map, List.length_map, List.length_zipIdx, List.length_range])
    fun j _ h2 => ?_
  have hj : j < edits.length := by rwa [List.length_map, List.length_range] at h2
  rw [List.getElem_map, List.getElem_map, List.getElem_zipIdx, List.getElem_range, getElem!_pos edits j hj,
    Nat.add_sub_cancel_left]

/-- … and the accepted reading of the preview is the simultaneous replacement (C14_accept_exact,
restated for this property): what the commit must produce on the accepted view. -/
theorem C15_preview_accepts_replacement_partial (text : Str) (edits : List MEdit) (o : Opts)
    (h : FzInBounds text edits) (ho : o.highlightOnly = false) :
    acceptView (previewSegs text edits o) = applyEdits text (scriptOf text edits) :=
  C14_accept_exact text edits o h ho

end Adeu.Props.C15
