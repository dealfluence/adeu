import AdeuModel.Lemmas.ExtractDoc
/-
Layer D — annotation of the raw view for whole documents: every text character of every story (prefixes and
separators included) appears once, in document order, in the kind of block its enclosing marks call for.
`docTagged` is the specification (per-run tags from the open marks, virtual text tagged plain, containers that the
raw view drops as empty dropped); `ReadsT raw T` relates it to a string through a flat segment list (`doc_tagged` in
`ExtractAll`, where the reader's layout is walked).  No domain hypothesis: both sides decide emptiness on the raw text.
-/
namespace Adeu.Doc
open Adeu Adeu.Markup

abbrev TChar := Char × Tag

def plainT (s : Str) : List TChar := s.map (·, Tag.plain)

def joinT (sep : Str) : List (List TChar) → List TChar
  | [] => []
  | [x] => x
  | x :: r => x ++ plainT sep ++ joinT sep r

mutual
  def blocksTagged (cm : CMap) : List Block → List (List TChar)
    | [] => []
    | .para p :: rest => (plainT (paraPrefix p) ++ taggedSpec [] [] [] (items p)) :: blocksTagged cm rest
    | .table _ _ rows :: rest =>
      if (tableText false cm rows).isEmpty then blocksTagged cm rest
      else tableTagged cm rows :: blocksTagged cm rest
    | .other _ :: rest => blocksTagged cm rest
  termination_by x1 => (sizeOf x1, 0)
  def rowsCellTagged (cm : CMap) : List Row → List (List (List TChar))
    | [] => []
    | .mk _ cells :: rest => cellsTagged cm cells :: rowsCellTagged cm rest
  termination_by x1 => (sizeOf x1, 0)
  def cellsTagged (cm : CMap) : List Cell → List (List TChar)
    | [] => []
    | .mk _ _ _ blocks :: rest => joinT ['\n', '\n'] (blocksTagged cm blocks) :: cellsTagged cm rest
  termination_by x1 => (sizeOf x1, 0)
  def tableTagged (cm : CMap) (rows : List Row) : List TChar :=
    let texts := rowsCellTagged cm rows
    let cellsOf := rows.map Row.cells
    let rowStrs := (List.range rows.length).map fun ri =>
      joinT " | ".toList ((rowContentCells cellsOf ri).map fun (r, c) => ((texts[r]?).getD [])[c]?.getD [])
    joinT ['\n'] rowStrs
  termination_by (sizeOf rows, 1)
end

/-- the tagged characters of the raw view of a document -/
def docTagged (d : Document) : List TChar :=
  let cm := commentsMap d
  joinT ['\n', '\n'] (((docParts d).filter fun bs => !(containerText false cm bs).isEmpty).map fun bs =>
    joinT ['\n', '\n'] (blocksTagged cm bs))

def ReadsT (raw : Str) (T : List TChar) : Prop := ∃ segs : List Seg, raw = render segs ∧ tagsOf segs = T

theorem ReadsT.plain (s : Str) : ReadsT s (plainT s) := ⟨[.plain s], by simp, by simp [Seg.tagged, plainT]⟩
theorem ReadsT.append {a b : Str} {A B : List TChar} (h1 : ReadsT a A) (h2 : ReadsT b B) : ReadsT (a ++ b) (A ++ B) := by
  obtain ⟨s1, r1, c1⟩ := h1
  obtain ⟨s2, r2, c2⟩ := h2
  exact ⟨s1 ++ s2, by simp [r1, r2], by simp [c1, c2]⟩

end Adeu.Doc
