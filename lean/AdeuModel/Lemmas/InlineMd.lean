import AdeuModel.Model.Engine
import AdeuModel.Lemmas.List
/-
Layer S/E — `_parse_inline_markdown`: the texts of the segments, concatenated, are the new text with only span
delimiters (`**`, `_`) removed - every other character is kept, in order.
-/
namespace Adeu.Doc
open Adeu

theorem findFrom_spec (p : Nat → Bool) (lo hi j : Nat) (h : findFrom p lo hi = some j) : lo ≤ j ∧ j < hi ∧ p j = true := by
  unfold findFrom at h
  have hm := List.mem_of_find?_eq_some h
  have hp := List.find?_some h
  simp only [List.mem_map, List.mem_range] at hm
  obtain ⟨k, hk, rfl⟩ := hm
  exact ⟨Nat.le_add_left lo k, Nat.add_lt_of_lt_sub hk, hp⟩

theorem ite_map_some {α β} {c : Prop} [Decidable c] {o : Option α} {f : α → β} {y : β}
    (h : (if c then o.map f else none) = some y) : c ∧ ∃ a, o = some a ∧ f a = y := by
  by_cases hc : c
  · rw [if_pos hc] at h
    cases o with
    | none => cases h
    | some a => exact ⟨hc, a, rfl, by simpa using h⟩
  · rw [if_neg hc] at h; cases h

theorem findSpan_spec (t : Array Char) (s e : Nat) (b : Bool) (h : findSpan t = some (s, e, b)) :
    e ≤ t.size ∧
    (b = true → s + 5 ≤ e ∧ t[s]? = some '*' ∧ t[s + 1]? = some '*' ∧ t[e - 2]? = some '*' ∧ t[e - 1]? = some '*') ∧
    (b = false → s + 3 ≤ e ∧ t[s]? = some '_' ∧ t[e - 1]? = some '_') := by
  obtain ⟨i, _, hi⟩ := List.exists_of_findSome?_eq_some h
  revert hi
  dsimp only
  -- the pattern's first alternative (bold) is tried first at each position
  split
  · rename_i hm
    intro hi
    cases hi
    obtain ⟨hc, j, hj, he⟩ := ite_map_some hm
    cases he
    obtain ⟨h1, h2, h3⟩ := findFrom_spec _ _ _ _ hj
    simp only [Bool.and_eq_true, decide_eq_true_eq] at hc h3
    -- the closing `**` lies inside the text; the indices `j + 2 - 2` and `j + 2 - 1` compute to `j` and `j + 1`
    exact ⟨(Array.getElem?_eq_some_iff.mp h3.1.2).1, fun _ => ⟨Nat.add_le_add_right h1 2, hc.1.1.1, hc.1.1.2, h3.1.1, h3.1.2⟩,
      (fun hx => by cases hx)⟩
  · intro hi
    obtain ⟨hc, j, hj, he⟩ := ite_map_some hi
    cases he
    obtain ⟨h1, h2, h3⟩ := findFrom_spec _ _ _ _ hj
    simp only [Bool.and_eq_true, decide_eq_true_eq] at hc h3
    exact ⟨h2, (fun hx => by cases hx), fun _ => ⟨Nat.add_le_add_right h1 1, hc.1.1.1, h3.1.1⟩⟩

def notMarker (c : Char) : Bool := c != '*' && c != '_'

def segsText (segs : List Seg) : Str := segs.flatMap (·.text)

theorem split_delim (t d : Str) (s j : Nat) (hsj : s + d.length ≤ j)
    (h0 : (t.drop s).take d.length = d) (h1 : (t.drop j).take d.length = d) :
    t = t.take s ++ d ++ (t.take j).drop (s + d.length) ++ d ++ t.drop (j + d.length) := by
  have a (k : Nat) (h : (t.drop k).take d.length = d) : t.drop k = d ++ t.drop (k + d.length) := by
    rw [← List.drop_drop]; conv => lhs; rw [← List.take_append_drop d.length (t.drop k), h]
  calc t = t.take s ++ t.drop s := (List.take_append_drop s t).symm
    _ = _ := by rw [a s h0, drop_eq_mid_append_drop t hsj, a j h1]; simp only [List.append_assoc]

theorem take_drop_one {t : Str} {k : Nat} {c : Char} (h : t[k]? = some c) : (t.drop k).take 1 = [c] := by
  rw [List.drop_eq_getElem?_toList_append, h]; rfl

theorem take_drop_two {t : Str} {k : Nat} {c c' : Char} (h0 : t[k]? = some c) (h1 : t[k + 1]? = some c') :
    (t.drop k).take 2 = [c, c'] := by
  rw [List.drop_eq_getElem?_toList_append, h0, List.drop_eq_getElem?_toList_append (i := k + 1), h1]; rfl

/-- what a found span says about the text: the same delimiter (`**` or `_`) in front of and behind the inner part -/
theorem findSpan_split (t : Str) (s e : Nat) (b : Bool) (h : findSpan t.toArray = some (s, e, b)) :
    ∃ d : Str, d.filter notMarker = [] ∧
      t = t.take s ++ d ++ (if b then (t.take (e - 2)).drop (s + 2) else (t.take (e - 1)).drop (s + 1)) ++ d ++ t.drop e := by
  obtain ⟨_, hb, hi⟩ := findSpan_spec t.toArray s e b h
  -- name the place `j` where the closing delimiter starts: with `e = j + 2` the indices `e - 2` and `e - 1`
  -- compute to `j` and `j + 1`, and no subtraction is left
  cases b with
  | true =>
    obtain ⟨h5, g0, g1, g2, g3⟩ := hb rfl
    obtain ⟨j, rfl⟩ : ∃ j, e = j + 2 := ⟨e - 2, (Nat.sub_add_cancel (Nat.le_trans (Nat.le_add_left 2 (s + 3)) h5)).symm⟩
    rw [List.getElem?_toArray] at g0 g1 g2 g3
    exact ⟨['*', '*'], rfl, split_delim t _ s j (Nat.le_of_succ_le (Nat.le_of_add_le_add_right (b := 2) h5))
      (take_drop_two g0 g1) (take_drop_two g2 g3)⟩
  | false =>
    obtain ⟨h3, g0, g3⟩ := hi rfl
    obtain ⟨j, rfl⟩ : ∃ j, e = j + 1 := ⟨e - 1, (Nat.sub_add_cancel (Nat.le_trans (Nat.le_add_left 1 (s + 2)) h3)).symm⟩
    rw [List.getElem?_toArray] at g0 g3
    exact ⟨['_'], rfl, split_delim t _ s j (Nat.le_of_succ_le (Nat.le_of_add_le_add_right (b := 1) h3))
      (take_drop_one g0) (take_drop_one g3)⟩

theorem segsText_append (a b : List Seg) : segsText (a ++ b) = segsText a ++ segsText b := by simp [segsText]

theorem pre_seg (pre : Str) (b i : Bool) : segsText (if pre.isEmpty then [] else [(⟨pre, b, i⟩ : Seg)]) = pre :=
  flatMap_unless_isEmpty Seg.text pre _ rfl

/-- `_parse_inline_markdown` only removes span delimiters: the segment texts, concatenated, are a subsequence of the
new text, and every character that is not `*` or `_` is kept (in order). -/
theorem parseInline_text : ∀ (fuel : Nat) (t : Str) (b i : Bool),
    List.Sublist (segsText (parseInline fuel t b i)) t ∧
    (segsText (parseInline fuel t b i)).filter notMarker = t.filter notMarker := by
  intro fuel
  induction fuel with
  | zero =>
    intro t b i
    simp only [parseInline, pre_seg, List.Sublist.refl, and_self]
  | succ n ih =>
    intro t b i
    simp only [parseInline]
    by_cases h : t.isEmpty = true
    · have : t = [] := by simpa using h
      simp [this, segsText]
    · simp only [h, Bool.false_eq_true, ↓reduceIte]
      cases hf : findSpan t.toArray with
      | none => simp [segsText]
      | some m =>
        obtain ⟨s, e, isBold⟩ := m
        -- prefix, delimiter, inner part, delimiter, rest: only the two delimiters go
        obtain ⟨d, hd, ht⟩ := findSpan_split t s e isBold hf
        obtain ⟨i1, i2⟩ := ih (if isBold then (t.take (e - 2)).drop (s + 2) else (t.take (e - 1)).drop (s + 1))
          (b || isBold) (i || !isBold)
        obtain ⟨j1, j2⟩ := ih (t.drop e) b i
        simp only [segsText_append, pre_seg]
        constructor
        · conv => rhs; rw [ht]
          have := ((((List.Sublist.refl (t.take s)).append (List.nil_sublist d)).append i1).append
            (List.nil_sublist d)).append j1
          simpa only [List.append_nil] using this
        · conv => rhs; rw [ht]
          simp only [List.filter_append, i2, j2, hd, List.append_nil]

/-- text without a Markdown span is inserted literally, as one run -/
theorem inlineSegs_literal (t : Str) (ht : t ≠ []) (h : findSpan t.toArray = none) :
    inlineSegs t = [⟨t, false, false⟩] := by
  unfold inlineSegs
  cases hl : t.length + 1 with
  | zero => omega
  | succ n =>
    have : t.isEmpty = false := by simpa using ht
    simp [parseInline, this, h]

def insChildText : InsChild → Str
  | .run r => r.ch.flatMap fun | .t s => s | _ => []
  | _ => []

/-- the characters of the runs `track_insert` creates for one line are the segment texts -/
theorem insRuns_chars (t : Str) (style : Option Run) (sup : Bool) :
    (insRuns t style sup).flatMap insChildText = segsText (inlineSegs t) := by
  simp [insRuns, segsText, List.flatMap_map, insChildText]

end Adeu.Doc
