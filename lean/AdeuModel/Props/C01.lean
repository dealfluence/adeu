import AdeuModel.Lemmas.Engine
import AdeuModel.Lemmas.Grow
import AdeuModel.Lemmas.Reach
/-
C01 — tracked edits are fully reversible: the engine patches, it never rewrites.

The first three theorems are about the building blocks of `Adeu.Doc.applyIndexed` (the model of
`_apply_single_edit_indexed`, compared with the implementation on whole documents by the
correspondence of this check). That rejecting the session's marks restores the paragraph children
after the blocks are composed inside `applyIndexed` (anchor search, multi-line and heading
insertions, comment attachment) is covered by the correspondence and the oracle, not by a theorem:
these three are therefore labelled `_core`. `C01_session_ids_fresh` supplies their freshness hypotheses; the last
three speak of whole batches (`applyEdits`).
-/
namespace Adeu.Props.C01
open Adeu Adeu.Doc

/-- Splitting a run (the only thing the engine does to text it does not change) keeps every
character, its formatting and every other child exactly once and in order. -/
theorem C01_split_neutral_core (r : Run) (k : Nat) :
    canonRun (splitRun r k).1 ++ canonRun (splitRun r k).2 = canonRun r :=
  canonRun_splitRun r k

/-- Restoring a deletion made by the session gives back the original run (text, tabs, breaks,
drawings, run properties). -/
theorem C01_delete_restores_core (r : Run) (rev : Rev) (h : noDt r = true) :
    rejectN rev.id (.del rev [r.deleted]) = [.run r] :=
  reject_trackDelete_node r rev h

/-- A tracked replacement of one run: dropping the session's insertion and restoring the session's
deletion gives back the paragraph's children exactly — everything else (earlier authors' marks,
comment anchors, bookmarks, other runs) is untouched and in its original place. -/
theorem C01_reject_restores_core (ns : List Node) (i : Nat) (r : Run) (dRev iRev : Rev) (ch : List InsChild)
    (hi : ns[i]? = some (.run r)) (hr : noDt r = true) (hne : dRev.id ≠ iRev.id)
    (hfd : ∀ n ∈ ns, hasRevN dRev.id n = false) (hfi : ∀ n ∈ ns, hasRevN iRev.id n = false) :
    ((replaceAt ns i dRev iRev ch).flatMap (rejectN dRev.id)).flatMap (rejectN iRev.id) = ns := by
  obtain ⟨hlt, he⟩ := List.getElem?_eq_some_iff.mp hi
  have hsplit : ns.take i ++ .run r :: ns.drop (i + 1) = ns := by
    rw [← he, ← List.drop_eq_getElem_cons hlt, List.take_append_drop]
  -- neither rejection touches what lies before and behind the run
  have keep (id : Str) (h : ∀ n ∈ ns, hasRevN id n = false) :
      (ns.take i).flatMap (rejectN id) = ns.take i ∧ (ns.drop (i + 1)).flatMap (rejectN id) = ns.drop (i + 1) :=
    ⟨actN_flatMap_unknown false id _ fun n hn => h n (List.mem_of_mem_take hn),
     actN_flatMap_unknown false id _ fun n hn => h n (List.mem_of_mem_drop hn)⟩
  -- in between, the first brings the run back and leaves the insertion, the second drops the insertion
  have h1 : rejectN dRev.id (.del dRev [r.deleted]) = [.run r] := reject_trackDelete_node r dRev hr
  have h2 : rejectN dRev.id (.ins iRev ch) = [.ins iRev ch] := if_neg (Ne.symm hne)
  have h3 : rejectN iRev.id (.ins iRev ch) = [] := if_pos rfl
  have h4 : rejectN iRev.id (.run r) = [.run r] := rfl
  simp only [replaceAt_run dRev iRev ch hi, List.flatMap_append, List.flatMap_cons, List.flatMap_nil, keep _ hfd, keep _ hfi,
    h1, h2, h3, h4, List.append_nil, List.append_assoc, List.singleton_append]
  exact hsplit

/-- The ids the session hands out are new: larger than every numeric revision id present in the
main part and in the reachable header / footer parts at load (so the freshness hypotheses of `C01_reject_restores_core` are met). -/
theorem C01_session_ids_fresh (d : Document) (author date : Str) (bs : List Block) (n : Node) (rev : Rev) (k : Nat)
    (hbs : bs ∈ docParts (normalize d)) (hn : n ∈ allNodesBlocks bs) (hform : revOf n = some rev)
    (hk : strNat? rev.id = some k) :
    k < (Sess.open d author date).nextRev + 1 :=
  newRev_fresh d author date bs n rev k hbs hn hform hk

/-- Whole batches (offset-addressed and searched edits mixed; applied, skipped or matched fuzzily — the
non-literal matcher is an arbitrary parameter): the engine patches, it never rewrites. Every story keeps its
skeleton — each paragraph's style and properties, every table with its properties, grid, rows, cells and
their properties, every other block, all in the original order; the only thing that can be added is a
paragraph — and the story selection flags are untouched. (`skel` is the canonical content stream of a story
without the paragraph children; `Sublist` = the input's items all survive, in order.) -/
theorem C01_skeleton_retained (s : Sess) (edits : List HEdit) :
    (skel s.doc.body).Sublist (skel (Doc.applyEdits s edits).1.doc.body) ∧
    SkelLe s.doc.headers (Doc.applyEdits s edits).1.doc.headers ∧
    SkelLe s.doc.footers (Doc.applyEdits s edits).1.doc.footers :=
  ⟨(Grows_applyEdits s edits).skel.body, (Grows_applyEdits s edits).skel.headers, (Grows_applyEdits s edits).skel.footers⟩

/-- … and everything that is not a tracked change or comment of this run in the comment store stays: the
existing entries of all four comment lists are a prefix of the result's. -/
theorem C01_existing_comments_retained (s : Sess) (edits : List HEdit) :
    s.doc.comments <+: (Doc.applyEdits s edits).1.doc.comments ∧
    s.doc.commentsEx <+: (Doc.applyEdits s edits).1.doc.commentsEx :=
  ⟨(Grows_applyEdits s edits).comments, (Grows_applyEdits s edits).commentsEx⟩

/-- The result differs from the input only by marks attributed to this run: every revision mark of the result is
one of the input's (identical id / author / date) or one created by this session (its author, its date, a fresh
id) — for every mixed batch. Earlier authors' tracked changes are never re-labelled. -/
theorem C01_only_this_runs_marks_are_new (s : Sess) (edits : List HEdit) :
    ∀ x ∈ revsDoc (Doc.applyEdits s edits).1.doc, x ∈ revsDoc s.doc ∨ Fresh s (Doc.applyEdits s edits).1 x :=
  (RevOk_applyEdits s edits).revs

def sampleRun : Run := { b := some [], i := none, rest := "<w:color w:val=\"FF0000\"/>".toList,
                         ch := [.t "Name:".toList, .tab, .t "John Smith".toList, .other "<w:drawing/>".toList] }

example : (splitRun sampleRun 8).1.ch = [.t "Name:".toList, .tab, .t "Jo".toList] := by decide +kernel
example : noDt sampleRun = true := by decide +kernel

end Adeu.Props.C01
