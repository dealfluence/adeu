import AdeuModel.Lemmas.Script
import AdeuModel.Lemmas.Diff
import AdeuModel.Lemmas.Frame
/-
C12 — applying the diff of a rewritten text reproduces that text.

Text level (proved here, every pair of texts / every raw diff list `ds` of diff-match-patch): the
script computed by `generate_edits_from_text` (separator splitting + the loop), applied one edit at
a time from the right — the order in which the engine applies indexed edits — turns the first text
into the second; the engine model processes a computed script in exactly that order and its overlap
guard never fires on it.

Document level (`_partial`): that one indexed edit changes exactly the addressed characters of the
accepted view is not a theorem; it is covered by the whole-document correspondence of the engine
model with the real engine and by the oracle of this check.
-/
namespace Adeu.Props.C12
open Adeu Adeu.Diff Adeu.Doc

/-- One-at-a-time application from the right equals simultaneous replacement, for every sorted,
non-overlapping, in-range script (insertions at one offset keep their order). -/
theorem C12_reverse_application (s : Str) (es : List Edit) (hs : SortedFrom 0 es)
    (hr : InRange s.length es) : applyDesc s es = applyEdits s es := by
  simpa [applyEdits] using applyDesc_eq s es 0 hs hr

/-- The computed script, applied the way the engine applies it, gives the second text. -/
theorem C12_text_roundtrip_partial (ds : DiffList) : applyDesc (src ds) (editsOfRaw ds) = dst ds := by
  have h := editsOfRaw_tiles ds
  rw [C12_reverse_application _ _ h.sorted (by simpa using h.inRange)]
  exact h.applyFrom_eq

def toI (e : Edit) (note : Option Str) : IEdit := { index := e.idx, target := e.target, new := e.new, comment := note }

/-- The engine model's processing order for a computed script (reverse, then stable descending
sort) is the script read from the right. -/
theorem C12_order (es : List Edit) (base : Nat) (hs : SortedFrom base es) (note : Option Str) :
    ((es.map (toI · note)).reverse.mergeSort fun a b => decide (a.index ≥ b.index)) =
      (es.map (toI · note)).reverse := by
  apply List.mergeSort_of_pairwise
  rw [List.pairwise_reverse, List.pairwise_map]
  exact (sortedFrom_disjoint es base hs).imp fun h =>
    decide_eq_true (Nat.le_trans (Nat.le_add_right ..) h)

/-- The overlap guard of `apply_edits` (`a < oe ∧ b > os` against the ranges applied before, i.e.
those to the right) never fires on a computed script: no computed edit is skipped as overlapping. -/
theorem C12_guard_silent (ds : DiffList) (pre post : List Edit) (e : Edit)
    (h : editsOfRaw ds = pre ++ e :: post) :
    ∀ e' ∈ post, ¬ (e.idx < e'.idx + e'.target.length ∧ e.idx + e.target.length > e'.idx) := by
  intro e' he'
  have := sortedFrom_disjoint _ 0 (editsOfRaw_tiles ds).sorted
  rw [h, List.pairwise_append, List.pairwise_cons] at this
  have := this.2.1.1 e' he'
  omega

/-- accounting: applied + skipped = number of computed edits -/
theorem C12_accounting (s : Sess) (edits : List IEdit) :
    (applyEditsIndexed s edits).2.1 + (applyEditsIndexed s edits).2.2 = edits.length :=
  applyEditsIndexed_total s edits

/-! Non-vacuity: two insertions at one offset and a replacement. -/
def sampleScript : List Edit := [⟨2, [], "X".toList⟩, ⟨2, [], "Y".toList⟩, ⟨2, "c".toList, "Z".toList⟩]
example : SortedFrom 0 sampleScript ∧ InRange 4 sampleScript := by
  refine ⟨by simp [SortedFrom, sampleScript], ?_⟩
  intro e he; simp [sampleScript] at he; rcases he with rfl | rfl | rfl <;> simp
example : applyDesc "abcd".toList sampleScript = "abXYZd".toList := by decide +kernel

end Adeu.Props.C12
