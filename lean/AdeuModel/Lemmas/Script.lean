import AdeuModel.Model.Str
import AdeuModel.Lemmas.List
/-
Edit scripts applied one edit at a time from the right (the engine's order for indexed edits) —
text-level lemmas for C12.
-/
namespace Adeu

/-- One-at-a-time application from the right leaves the first `base` characters alone and equals
the simultaneous left-to-right replacement. -/
theorem applyDesc_eq (s : Str) (es : List Edit) : ∀ (base : Nat), SortedFrom base es → InRange s.length es →
    applyDesc s es = s.take base ++ applyFrom base (s.drop base) es := by
  induction es with
  | nil => intro base _ _; simp [applyDesc, applyFrom]
  | cons e es ih =>
    intro base ⟨h1, h2⟩ hr
    have he : e.idx + e.target.length ≤ s.length := hr e (by simp)
    have ih' := ih (e.idx + e.target.length) h2 (fun x hx => hr x (by simp [hx]))
    -- the edits to the right have left the first `e.idx + |target|` characters alone: one splicing step
    rw [applyDesc, List.foldr_cons, ← applyDesc, ih', replaceOne,
      splice_step s _ e.new he (Nat.le_add_right ..) (Nat.le_refl _), Nat.sub_self, List.take_zero,
      List.append_nil, applyFrom, List.drop_drop, ← Nat.add_assoc, Nat.add_sub_cancel' h1,
      List.append_assoc, ← List.append_assoc (s.take base), ← List.take_add, Nat.add_sub_cancel' h1]

end Adeu
