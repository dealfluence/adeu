import AdeuModel.Lemmas.Extract
import AdeuModel.Model.ExtractSegs
import AdeuModel.Lemmas.Markup
/-
Layer D — the raw view of a paragraph as a *flat list of CriticMarkup segments*.

`paraLoop false` (model of `_build_paragraph_text`) writes a string; `gLoop` (Model/ExtractSegs) replays the same
walk with a ghost output `g : List Seg` next to the model state.  The string is `render` of the ghost output, so
delimiters are balanced and never nested by construction (`paraText_raw_render`).  Everything else is said through
readings `v` of segment lists that are additive and do not see where a buffer of one kind was cut (`SegView`): for such
a reading the ghost output reads as what the items contribute one by one (`loopSegs`), so the buffer, the wrappers and
the flushes are dealt with once for all readings.  The accepted text, the per-character tags (deleted > inserted >
commented > plain) and the metadata blocks are three such readings.  What holds of ghost output and state all along the
walk (`RInv` here, `Quiet` in Lemmas/QuietPara) is shown move by move: `gLoop_inv`.
-/
namespace Adeu.Doc
open Adeu Adeu.Markup

def tagW (wr : Str × Str) : Tag := if wr = dW then .del else if wr = iW then .ins else if wr = hW then .hl else .plain

def tagSeg : Tag → Str → Seg
  | .plain, t => .plain t
  | .del, t => .del t
  | .ins, t => .ins t
  | .hl, t => .hl t

/-- the wrappers of a kind of block -/
def wOf : Tag → Str × Str
  | .plain => nW
  | .del => dW
  | .ins => iW
  | .hl => hW

theorem segOf_eq (wr : Str × Str) (t : Str) : segOf wr t = tagSeg (tagW wr) t := by
  simp only [segOf, tagW, apply_ite (tagSeg · t)]
  rfl

theorem wrappers_eq (i d : RevMap) (c : List Str) : wrappers i d c = wOf (tagOf i d c) := by
  simp only [wrappers, tagOf, apply_ite wOf]
  rfl

-- the one place where the four delimiter pairs are compared (by the kernel: the elaborator is slow on string literals)
theorem tagW_wOf (k : Tag) : tagW (wOf k) = k := by cases k <;> decide +kernel

theorem render_segOf (k : Tag) (t : Str) : (segOf (wOf k) t).render = (wOf k).1 ++ t ++ (wOf k).2 := by
  rw [segOf_eq, tagW_wOf]
  cases k
  · exact (List.append_nil t).symm
  all_goals rfl

theorem render_noteSegs (m : Str) : render (noteSegs m) = metaWrap m := by
  unfold noteSegs metaWrap
  split
  · rfl
  · exact List.append_nil _

@[simp] theorem render_nil : render [] = [] := rfl
@[simp] theorem render_single (s : Seg) : render [s] = s.render := by simp [render]

/-- invariant of the ghost walk: the output so far is the rendering of the ghost output, and the buffer's wrappers are
those of a kind of block (`segOf` reads any other pair as plain) -/
def RInv (g : List Seg) (s : PSt) : Prop := s.out = render g ∧ ∃ k, s.wr = wOf k

theorem RInv_flush (g : List Seg) (s : PSt) (h : RInv g s) : RInv (gFlush g s) s.flush := by
  obtain ⟨ho, k, hw⟩ := h
  unfold gFlush PSt.flush RInv
  by_cases hp : s.pending.isEmpty = true
  · simp only [hp, ↓reduceIte]
    exact ⟨ho, k, hw⟩
  · simp only [hp, Bool.false_eq_true, ↓reduceIte, render_append, render_single, hw, render_segOf, ho]
    exact ⟨by simp only [List.append_assoc], .plain, rfl⟩

theorem gFlush_of_pending_nil (g : List Seg) (s : PSt) (h : s.pending = []) : gFlush g s = g := by
  simp [gFlush, h]

def snapOf (s : PSt) : Snap := { ins := s.ins, del := s.del, comments := s.comments }

/-- One principle for what the ghost walk keeps.  The raw walk is made of six moves: flush the buffer, apply an event,
extend the buffer, start a buffer (on a flushed state), take a snapshot of the open marks, write a metadata block
(on a flushed state).  A relation between ghost output and state that every move keeps is kept by the walk. -/
theorem gLoop_inv (cm : CMap) {P : List Seg → PSt → Prop} {Q : Item → Prop}
    (flush : ∀ g s, P g s → P (gFlush g s) s.flush)
    (ev : ∀ g s ty id a, Q (.ev ty id a) → P g s → P g (applyEv s ty id a))
    (extend : ∀ g s seg, P g s → P g { s with pending := s.pending ++ seg })
    (start : ∀ g s seg, P g s → P g { s with pending := seg, wr := wrappers s.ins s.del s.comments })
    (snap : ∀ g s, P g s → P g { s with deferred := s.deferred ++ [snapOf s] })
    (note : ∀ g s, P g s → P (g ++ noteSegs (metaBlock cm s.deferred))
      { s with out := s.out ++ metaWrap (metaBlock cm s.deferred), deferred := [] }) :
    ∀ (its : List Item) (g : List Seg) (s : PSt), (∀ it ∈ its, Q it) → P g s →
      P (gLoop cm g s its).1 (gLoop cm g s its).2 := by
  intro its
  induction its with
  | nil => exact fun _ _ _ h => h
  | cons it rest ih =>
    intro g s hq h
    refine ih _ _ (fun x hx => hq x (List.mem_cons_of_mem _ hx)) ?_
    cases it with
    | ev ty id a => exact ev _ _ ty id a (hq _ List.mem_cons_self) (flush g s h)
    | run r loc =>
      simp only [gStep, paraStep, Bool.false_and, Bool.false_eq_true, ↓reduceIte]
      split
      · exact h
      · -- the buffer is extended, or flushed and started anew
        have hp : P (gPush g s (wrappers s.ins s.del s.comments))
            (s.push (applyFormatting (runText r) (runMarkers r).1 (runMarkers r).2) (wrappers s.ins s.del s.comments)) := by
          rw [PSt.push_eq, gPush]
          split
          · exact extend g s _ h
          · rw [← s.flush_ins, ← s.flush_del, ← s.flush_comments]
            exact start _ _ _ (flush g s h)
        -- a snapshot is taken; unless deferred, the buffer is flushed and the metadata block written
        revert hp
        generalize gPush g s _ = g1
        generalize s.push _ _ = s1
        intro hp
        unfold gMeta PSt.meta
        simp only
        split
        · exact snap _ _ hp
        · have := note _ _ (flush _ _ (snap _ _ hp))
          rw [PSt.flush_deferred] at this ⊢
          exact this

theorem gLoop_snd (cm : CMap) : ∀ (its : List Item) (g : List Seg) (s : PSt), (gLoop cm g s its).2 = paraLoop false cm s its
  | [], _, _ => rfl
  | _ :: rest, _, _ => gLoop_snd cm rest _ _

theorem RInv_loop (cm : CMap) (its : List Item) (g : List Seg) (s : PSt) (h : RInv g s) :
    RInv (gLoop cm g s its).1 (gLoop cm g s its).2 :=
  -- only flushing, starting a buffer and writing a block touch the output or the wrappers
  gLoop_inv cm (Q := fun _ => True) RInv_flush
    (fun _ _ ty _ _ _ h => by cases ty <;> exact h)
    (fun _ _ _ h => h)
    (fun _ _ _ h => ⟨h.1, _, wrappers_eq ..⟩)
    (fun _ _ h => h)
    (fun _ _ h => ⟨by simp only [render_append, render_noteSegs, h.1], h.2⟩)
    its g s (fun _ _ => trivial) h

/-- The string the reader model writes for the raw view of a paragraph is the rendering of a flat
segment list: every `{--`, `{++`, `{==`, `{>>` is closed by its own closer before the next opens. -/
theorem paraText_raw_render (cm : CMap) (p : Para) : paraText false cm p = render (rawSegs cm p) := by
  have hf := RInv_flush _ _ (RInv_loop cm (items p) [] {} ⟨rfl, .plain, rfl⟩)
  unfold paraText rawSegs
  simp only
  rw [← gLoop_snd cm (items p) []]
  rw [PSt.flush_deferred]
  split
  · exact hf.1
  · simp only [render_append, render_noteSegs, hf.1]

/-- a reading of segment lists that is additive and does not see where a buffer of one kind was cut -/
structure SegView {γ : Type} (v : List Seg → List γ) : Prop where
  nil : v [] = []
  append : ∀ a b, v (a ++ b) = v a ++ v b
  cut : ∀ k a b, v [tagSeg k (a ++ b)] = v [tagSeg k a] ++ v [tagSeg k b]

/-- the metadata deferral of `PSt.meta` -/
def defers (s : PSt) (rest : List Item) : Bool :=
  (!s.ins.isEmpty || !s.del.isEmpty) && nextIsRedline (!s.ins.isEmpty) (!s.del.isEmpty) rest

/-- what one item adds to the raw view, buffers not merged: the run's segment in the kind its open marks call for,
and the metadata block unless it is deferred -/
def stepSegs (cm : CMap) (s : PSt) (it : Item) (rest : List Item) : List Seg :=
  match it with
  | .ev _ _ _ => []
  | .run r _ =>
    if (applyFormatting (runText r) (runMarkers r).1 (runMarkers r).2).isEmpty then []
    else tagSeg (tagOf s.ins s.del s.comments) (applyFormatting (runText r) (runMarkers r).1 (runMarkers r).2) ::
      (if defers s rest then [] else noteSegs (metaBlock cm (s.deferred ++ [snapOf s])))

/-- what the items add to the raw view one by one (`stepSegs`), with the state the reader is in at each -/
def loopSegs (cm : CMap) : PSt → List Item → List Seg
  | s, [] => if s.deferred.isEmpty then [] else noteSegs (metaBlock cm s.deferred)
  | s, it :: rest => stepSegs cm s it rest ++ loopSegs cm (paraStep false cm s it rest) rest

theorem paraStep_ev (cm : CMap) (s : PSt) (ty : EvTy) (id : Str) (a : Option Str) (rest : List Item) :
    (paraStep false cm s (.ev ty id a) rest).ins = (applyEv s ty id a).ins ∧
    (paraStep false cm s (.ev ty id a) rest).del = (applyEv s ty id a).del ∧
    (paraStep false cm s (.ev ty id a) rest).comments = (applyEv s ty id a).comments ∧
    (paraStep false cm s (.ev ty id a) rest).deferred = s.deferred := by
  cases ty <;> simp [paraStep, applyEv, PSt.flush_ins, PSt.flush_del, PSt.flush_comments, PSt.flush_deferred]

theorem paraStep_run (cm : CMap) (s : PSt) (r : Run) (loc : Loc) (rest : List Item)
    (hseg : (applyFormatting (runText r) (runMarkers r).1 (runMarkers r).2).isEmpty = false) :
    (paraStep false cm s (.run r loc) rest).ins = s.ins ∧ (paraStep false cm s (.run r loc) rest).del = s.del ∧
    (paraStep false cm s (.run r loc) rest).comments = s.comments ∧
    (paraStep false cm s (.run r loc) rest).deferred = if defers s rest then s.deferred ++ [snapOf s] else [] := by
  simp only [paraStep, Bool.false_and, Bool.false_eq_true, ↓reduceIte, hseg, PSt.meta, defers, snapOf, push_marks]
  split
  · rename_i h; exact ⟨rfl, rfl, rfl, (if_pos h).symm⟩
  · rename_i h; exact ⟨PSt.flush_ins _, PSt.flush_del _, PSt.flush_comments _, (if_neg h).symm⟩

theorem gFlush_meta (cm : CMap) (g : List Seg) (s1 : PSt) (rest : List Item) :
    gFlush (gMeta cm g s1 rest) (s1.meta cm rest) =
      gFlush g s1 ++ (if defers s1 rest then [] else noteSegs (metaBlock cm (s1.deferred ++ [snapOf s1]))) := by
  unfold gMeta PSt.meta defers snapOf
  simp only
  split
  · simp [gFlush]
  · rw [gFlush_of_pending_nil _ _ (by simp [flush_flush])]
    simp [gFlush]

theorem SegView.push {γ} {v : List Seg → List γ} (hv : SegView v) (g : List Seg) (s : PSt) (seg : Str) (nw : Str × Str)
    (hseg : seg.isEmpty = false) :
    v (gFlush (gPush g s nw) (s.push seg nw)) = v (gFlush g s) ++ v [tagSeg (tagW nw) seg] := by
  rw [PSt.push_eq, gPush]
  split
  · -- same wrappers: the buffer grows, the view does not see the cut
    rename_i hc
    simp only [Bool.and_eq_true, Bool.not_eq_true', List.isEmpty_eq_false_iff, decide_eq_true_eq] at hc
    obtain ⟨hp, rfl⟩ := hc
    simp [gFlush, hp, hv.append, hv.cut, segOf_eq]
  · -- a new buffer behind the flushed one
    exact (congrArg v (if_neg (by simp [hseg]))).trans (by rw [hv.append, segOf_eq])

theorem SegView.step {γ} {v : List Seg → List γ} (hv : SegView v) (cm : CMap) (g : List Seg) (s : PSt) (it : Item)
    (rest : List Item) :
    v (gFlush (gStep cm g s it rest) (paraStep false cm s it rest)) = v (gFlush g s) ++ v (stepSegs cm s it rest) := by
  cases it with
  | ev ty id a =>
    have hp : (applyEv s.flush ty id a).pending = [] := by cases ty <;> simp [applyEv, flush_flush]
    simp only [gStep, paraStep, stepSegs, gFlush_of_pending_nil _ _ hp, hv.nil, List.append_nil]
  | run r loc =>
    simp only [gStep, paraStep, stepSegs, Bool.false_and, Bool.false_eq_true, ↓reduceIte]
    split
    · simp [hv.nil]
    · rename_i hseg
      rw [gFlush_meta, hv.append, hv.push _ _ _ _ (by simpa using hseg), wrappers_eq, tagW_wOf]
      simp only [defers, snapOf, push_marks]
      rw [List.append_assoc]
      exact congrArg _ (hv.append [_] _).symm

/-- Whatever the view, the ghost output of the walk reads as what was there followed by what the
items contribute one by one. -/
theorem SegView.loop {γ} {v : List Seg → List γ} (hv : SegView v) (cm : CMap) : ∀ (its : List Item) (g : List Seg) (s : PSt),
    v (gFinal cm (gLoop cm g s its)) = v (gFlush g s) ++ v (loopSegs cm s its)
  | [], g, s => by
    show v (gFinal cm (g, s)) = _
    unfold gFinal loopSegs
    by_cases hd : s.deferred.isEmpty = true <;> simp [hd, hv.nil, hv.append]
  | it :: rest, g, s => by
    simp only [gLoop, loopSegs]
    rw [hv.loop cm rest, hv.step, hv.append, List.append_assoc]

theorem SegView.rawSegs {γ} {v : List Seg → List γ} (hv : SegView v) (cm : CMap) (p : Para) :
    v (rawSegs cm p) = v (loopSegs cm {} (items p)) := by
  show v (gFinal cm (gLoop cm [] {} (items p))) = _
  rw [hv.loop]
  simp [gFlush, hv.nil]

@[simp] theorem acceptView_nil : acceptView [] = [] := rfl
@[simp] theorem acceptView_append (a b : List Seg) : acceptView (a ++ b) = acceptView a ++ acceptView b :=
  Markup.acceptView_append a b
@[simp] theorem acceptView_single (s : Seg) : acceptView [s] = s.accepted := by simp [acceptView]
@[simp] theorem acceptView_noteSegs (m : Str) : acceptView (noteSegs m) = [] := by
  unfold noteSegs; split <;> simp [Seg.accepted]

@[simp] theorem tagsOf_nil : tagsOf [] = [] := rfl
@[simp] theorem tagsOf_append (a b : List Seg) : tagsOf (a ++ b) = tagsOf a ++ tagsOf b := by simp [tagsOf]
@[simp] theorem tagsOf_single (s : Seg) : tagsOf [s] = s.tagged := by simp [tagsOf]
@[simp] theorem tagsOf_noteSegs (m : Str) : tagsOf (noteSegs m) = [] := by
  unfold noteSegs; split <;> simp [Seg.tagged]

theorem acceptView_segView : SegView acceptView :=
  ⟨rfl, acceptView_append, fun k a b => by cases k <;> simp [tagSeg, Seg.accepted]⟩

theorem tagsOf_segView : SegView tagsOf :=
  ⟨rfl, tagsOf_append, fun k a b => by cases k <;> simp [tagSeg, Seg.tagged]⟩

theorem tagSeg_tagged (k : Tag) (t : Str) : (tagSeg k t).tagged = t.map (·, k) := by cases k <;> rfl

theorem accepted_tagOf (i d : RevMap) (c : List Str) (t : Str) :
    (tagSeg (tagOf i d c) t).accepted = if !d.isEmpty then [] else t := by
  unfold tagOf
  cases d.isEmpty <;> cases i.isEmpty <;> cases c.isEmpty <;> rfl

/-! an event moves the specifications' marks as `applyEv` moves the state's -/

theorem taggedSpec_ev (s : PSt) (ty : EvTy) (id : Str) (a : Option Str) (rest : List Item) :
    taggedSpec s.ins s.del s.comments (.ev ty id a :: rest) =
      taggedSpec (applyEv s ty id a).ins (applyEv s ty id a).del (applyEv s ty id a).comments rest := by cases ty <;> rfl

theorem snapSpec_ev (s : PSt) (ty : EvTy) (id : Str) (a : Option Str) (rest : List Item) :
    snapSpec s.ins s.del s.comments (.ev ty id a :: rest) =
      snapSpec (applyEv s ty id a).ins (applyEv s ty id a).del (applyEv s ty id a).comments rest := by cases ty <;> rfl

theorem paraStep_run_nil (cm : CMap) (s : PSt) (r : Run) (loc : Loc) (rest : List Item)
    (hseg : (applyFormatting (runText r) (runMarkers r).1 (runMarkers r).2).isEmpty = true) :
    paraStep false cm s (.run r loc) rest = s := by
  simp [paraStep, hseg]

theorem acceptView_loopSegs (cm : CMap) : ∀ (its : List Item) (s : PSt),
    acceptView (loopSegs cm s its) = cleanSegs s.del its := by
  intro its
  induction its with
  | nil => intro s; simp only [loopSegs, cleanSegs]; split <;> simp
  | cons it rest ih =>
    intro s
    rw [loopSegs, acceptView_append, ih]
    cases it with
    | ev ty id a =>
      rw [cleanSegs_ev, (paraStep_ev cm s ty id a rest).2.1]
      rfl
    | run r loc =>
      simp only [stepSegs, cleanSegs]
      by_cases hseg : (applyFormatting (runText r) (runMarkers r).1 (runMarkers r).2).isEmpty = true
      · simp [paraStep_run_nil cm s r loc rest hseg, List.isEmpty_iff.1 hseg]
      · rw [(paraStep_run cm s r loc rest (by simpa using hseg)).2.1, if_neg hseg, ← List.singleton_append, acceptView_append,
          acceptView_single, accepted_tagOf]
        simp [apply_ite acceptView]

/-- Reading the raw view of a paragraph with every annotation resolved as "accept" (deleted text and
metadata dropped, wrappers of insertions and highlights removed) gives the accepted view of that
paragraph, character for character. -/
theorem rawSegs_accept (cm : CMap) (p : Para) : acceptView (rawSegs cm p) = paraText true cm p := by
  rw [acceptView_segView.rawSegs, acceptView_loopSegs, paraText_clean]

theorem tagsOf_loopSegs (cm : CMap) : ∀ (its : List Item) (s : PSt),
    tagsOf (loopSegs cm s its) = taggedSpec s.ins s.del s.comments its := by
  intro its
  induction its with
  | nil => intro s; simp only [loopSegs, taggedSpec]; split <;> simp
  | cons it rest ih =>
    intro s
    rw [loopSegs, tagsOf_append, ih]
    cases it with
    | ev ty id a =>
      obtain ⟨h1, h2, h3, _⟩ := paraStep_ev cm s ty id a rest
      rw [taggedSpec_ev, h1, h2, h3]
      rfl
    | run r loc =>
      simp only [stepSegs, taggedSpec]
      by_cases hseg : (applyFormatting (runText r) (runMarkers r).1 (runMarkers r).2).isEmpty = true
      · simp [paraStep_run_nil cm s r loc rest hseg, List.isEmpty_iff.1 hseg]
      · obtain ⟨h1, h2, h3, _⟩ := paraStep_run cm s r loc rest (by simpa using hseg)
        rw [h1, h2, h3, if_neg hseg, ← List.singleton_append, tagsOf_append, tagsOf_single, tagSeg_tagged]
        split <;> simp

/-- In the raw view every character of every run appears exactly once, in document order, inside the
kind of block that the marks enclosing its run call for: deleted text in `{--…--}`, otherwise inserted
text in `{++…++}`, otherwise commented text in `{==…==}`, otherwise bare. -/
theorem rawSegs_tagged (cm : CMap) (p : Para) : tagsOf (rawSegs cm p) = taggedSpec [] [] [] (items p) := by
  rw [tagsOf_segView.rawSegs, tagsOf_loopSegs]

@[simp] theorem notesOf_nil : notesOf [] = [] := rfl
@[simp] theorem notesOf_append (a b : List Seg) : notesOf (a ++ b) = notesOf a ++ notesOf b := by simp [notesOf]
theorem notesOf_noteSegs (m : Str) : notesOf (noteSegs m) = if m.isEmpty then [] else [m] := by
  unfold noteSegs; split <;> simp [notesOf, noteOf]

theorem notesOf_tagSeg (k : Tag) (t : Str) (l : List Seg) : notesOf (tagSeg k t :: l) = notesOf l := by cases k <;> rfl

theorem notesOf_segView : SegView notesOf :=
  ⟨rfl, notesOf_append, fun k a b => by simp only [notesOf_tagSeg, notesOf_nil, List.append_nil]⟩

/-- the non-empty renderings of the groups -/
def blocksOf (cm : CMap) (groups : List (List Snap)) : List Str :=
  (groups.map (metaBlock cm)).filter (!·.isEmpty)

theorem blocksOf_append (cm : CMap) (a b : List (List Snap)) : blocksOf cm (a ++ b) = blocksOf cm a ++ blocksOf cm b := by
  simp [blocksOf]
theorem blocksOf_single (cm : CMap) (g : List Snap) : blocksOf cm [g] = notesOf (noteSegs (metaBlock cm g)) := by
  rw [notesOf_noteSegs]
  unfold blocksOf
  by_cases h : (metaBlock cm g).isEmpty = true <;> simp [h]

theorem nStep_run (n : List (List Snap)) (s : PSt) (r : Run) (loc : Loc) (rest : List Item) :
    nStep n s (.run r loc) rest =
      if (applyFormatting (runText r) (runMarkers r).1 (runMarkers r).2).isEmpty then n
      else if defers s rest then n else n ++ [s.deferred ++ [snapOf s]] := rfl

/-- the notes of the walk are the rendered groups of the second ghost walk `nLoop`; the snapshots in groups and in the
deferred buffer are the specification's snapshots of the items consumed so far -/
theorem notes_loopSegs (cm : CMap) : ∀ (its : List Item) (n : List (List Snap)) (s : PSt),
    blocksOf cm n ++ notesOf (loopSegs cm s its) = blocksOf cm (nFinal (nLoop cm n s its)) ∧
    (nFinal (nLoop cm n s its)).flatten = n.flatten ++ s.deferred ++ snapSpec s.ins s.del s.comments its := by
  intro its
  induction its with
  | nil =>
    intro n s
    simp only [loopSegs, nLoop, nFinal, snapSpec, List.append_nil]
    by_cases hd : s.deferred.isEmpty = true
    · simp [List.isEmpty_iff.1 hd]
    · simp [hd, blocksOf_append, blocksOf_single]
  | cons it rest ih =>
    intro n s
    cases it with
    | ev ty id a =>
      obtain ⟨h1, h2, h3, h4⟩ := paraStep_ev cm s ty id a rest
      have ih := ih n (paraStep false cm s (.ev ty id a) rest)
      rw [h1, h2, h3, h4, ← snapSpec_ev] at ih
      simpa [loopSegs, nLoop, stepSegs, nStep] using ih
    | run r loc =>
      by_cases hseg : (applyFormatting (runText r) (runMarkers r).1 (runMarkers r).2).isEmpty = true
      · have ih := ih n s
        simpa [loopSegs, nLoop, stepSegs, nStep_run, hseg, paraStep_run_nil cm s r loc rest hseg, snapSpec] using ih
      · obtain ⟨h1, h2, h3, h4⟩ := paraStep_run cm s r loc rest (by simpa using hseg)
        have ih := ih (nStep n s (.run r loc) rest) (paraStep false cm s (.run r loc) rest)
        rw [h1, h2, h3, h4, nStep_run, if_neg hseg] at ih
        by_cases hdef : defers s rest = true
        · simpa [loopSegs, nLoop, stepSegs, nStep_run, hseg, hdef, snapSpec, snapOf, notesOf_tagSeg] using ih
        · simpa [loopSegs, nLoop, stepSegs, nStep_run, hseg, hdef, snapSpec, snapOf, notesOf_tagSeg, blocksOf_append,
            blocksOf_single] using ih

/-- The metadata blocks of a paragraph's raw view are, in order, the renderings (`_build_merged_meta_block`)
of the snapshot groups; empty renderings leave no block. -/
theorem rawSegs_notes (cm : CMap) (p : Para) : notesOf (rawSegs cm p) = blocksOf cm (metaGroups cm p) := by
  rw [notesOf_segView.rawSegs]
  exact (notes_loopSegs cm (items p) [] {}).1

/-- … and the groups, taken together, hold exactly one snapshot of the open insertions, deletions and
comment ranges per run that carries text, in document order: a change or comment is listed iff it is
open at some text-carrying run. -/
theorem metaGroups_flatten (cm : CMap) (p : Para) : (metaGroups cm p).flatten = snapSpec [] [] [] (items p) := by
  simpa [metaGroups] using (notes_loopSegs cm (items p) [] {}).2

end Adeu.Doc
