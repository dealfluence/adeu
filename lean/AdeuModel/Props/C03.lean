import AdeuModel.Lemmas.Mapper
import AdeuModel.Lemmas.ExtractAll
/-
C03 — reader offsets and writer offsets denote the same characters.

`extractText` models `extract_text_from_stream` and `mapperText` the concatenation of the spans of
`DocumentMapper` (after the repairs recorded in known_findings.json); both are applied to the
normalised document, as the code does.
-/
namespace Adeu.Props.C03
open Adeu Adeu.Doc Adeu.Markup

/-- The text a client reads and the text the engine indexes are the same string — raw and accepted
view, every document (heading prefixes, bold/italic markers, CriticMarkup wrappers, change/comment
metadata and threads, table cell/row separators, empty paragraphs, rows, tables and parts,
headers and footers). -/
theorem C03_text_eq (clean : Bool) (d : Document) :
    mapperText clean (normalize d) = extractText clean (normalize d) :=
  mapperText_eq_extractText clean (normalize d)

/-- Paragraph level: the spans of one paragraph spell the paragraph text the reader produces. -/
theorem C03_paragraph_text_eq (clean : Bool) (cm : CMap) (pp : PPath) (p : Para) :
    spansText (paraSpans clean cm pp p) = paraText clean cm p :=
  paraSpans_text clean cm pp p

/-- Offsets are prefix sums: the span list is a partition of the indexed text. -/
theorem C03_spans_partition (clean : Bool) (d : Document) :
    (buildSpans clean d).flatMap (·.text) = mapperText clean d := rfl

/-- Which characters an offset of the indexed text can denote: the text the engine indexes (raw view) is the
rendering of a flat CriticMarkup segment list whose text characters are, in order, the tagged characters of the
document (`docTagged`: every run's formatted segment tagged by its open marks, heading prefixes and separators
tagged plain) - everything else in the indexed text is a delimiter or metadata. Every document, no hypothesis. -/
theorem C03_indexed_text_is_annotated_document (d : Document) :
    ∃ segs : List Seg, mapperText false d = render segs ∧ tagsOf segs = docTagged d := by
  rw [mapperText_eq_extractText]
  exact doc_tagged d

/-- The two indexes of the engine are related like the two views of the reader: the raw index, read with every
annotation accepted, is the accepted-view index the clean-view fallback of the searched path works on (same domain as
C04_document_read_accepted_partial). -/
theorem C03_raw_index_reads_as_accepted_index_partial (d : Document) (h : domDoc d = true) :
    (parse (mapperText false d)).map acceptView = some (mapperText true d) := by
  rw [mapperText_eq_extractText, mapperText_eq_extractText]
  exact (doc_reads d h).parse

end Adeu.Props.C03
