/-
A list cut into front, middle and back, by lengths counted from both ends (the shape of every
trimming step: common context in `Trim`, common tokens in `Diff`, balanced markers in `Markup`),
two facts about prefixes (`mem_of_snoc_prefix` for the parser of `Markup`, `drop_of_prefixes` for
lists that only grow: the comment parts along a session), facts about `flatMap`, and what a `foldl` does to a
reading of its state (kept, raised by one per step, never lowered; for a plain invariant of the state there is
core's `List.foldlRecOn`).
-/
namespace Adeu
variable {α : Type}

theorem take_mid_drop (l : List α) (p s : Nat) (h : p + s ≤ l.length) :
    l.take p ++ (l.take (l.length - s)).drop p ++ l.drop (l.length - s) = l := by
  have : l.take p = (l.take (l.length - s)).take p := by rw [List.take_take, Nat.min_eq_left (by omega)]
  rw [this, List.take_append_drop, List.take_append_drop]

/-- `take_mid_drop` with the middle cut out of `l.drop a`, as `Diff.pieces` writes it -/
theorem take_mid_drop' (l : List α) (a b : Nat) (h : a + b ≤ l.length) :
    l.take a ++ ((l.drop a).take (l.length - a - b) ++ l.drop (l.length - b)) = l := by
  rw [Nat.sub_right_comm, ← List.drop_take, ← List.append_assoc]
  exact take_mid_drop l a b h

theorem drop_eq_mid_append_drop (l : List α) {a b : Nat} (h : a ≤ b) : l.drop a = (l.take b).drop a ++ l.drop b := by
  rw [← List.take_append_drop (b - a) (l.drop a), List.drop_drop, List.drop_take, Nat.add_sub_cancel' h]

theorem front_split (P T S : List α) : (P ++ T ++ S).take P.length = P := by
  rw [List.append_assoc, List.take_left' rfl]

theorem mid_split (P T S : List α) :
    ((P ++ T ++ S).take ((P ++ T ++ S).length - S.length)).drop P.length = T := by
  rw [List.length_append, Nat.add_sub_cancel, List.take_left' rfl, List.drop_left' rfl]

theorem back_split (P T S : List α) : (P ++ T ++ S).drop ((P ++ T ++ S).length - S.length) = S := by
  rw [List.length_append, Nat.add_sub_cancel, List.drop_left' rfl]

theorem replace_mid (P T S n : List α) :
    (P ++ T ++ S).take P.length ++ n ++ (P ++ T ++ S).drop (P.length + T.length) = P ++ n ++ S := by
  rw [front_split, ← List.length_append, List.drop_left' rfl]

theorem wrapped {m t : List α} (hp : m <+: t) (hs : m <:+ t) (hl : 2 * m.length ≤ t.length) :
    m ++ (t.take (t.length - m.length)).drop m.length ++ m = t := by
  have := take_mid_drop t m.length m.length (by omega)
  rwa [← List.prefix_iff_eq_take.mp hp, ← List.suffix_iff_eq_drop.mp hs] at this

theorem drop_eq_of_rev_take {t n : List α} {s : Nat} (h : t.reverse.take s = n.reverse.take s) :
    t.drop (t.length - s) = n.drop (n.length - s) := by
  have e (l : List α) : l.drop (l.length - s) = (l.reverse.take s).reverse := by
    rw [List.reverse_take]; simp
  rw [e, e, h]

/-- Replacing the piece from `s` to `e` in a text whose first `P` characters are still those of `text`
(`e ≤ P`): the front up to `s` stays, the rest of the original piece up to `P` moves behind `x`. -/
theorem splice_step (text tail x : List α) {P s e : Nat} (hP : P ≤ text.length) (hs : s ≤ e) (he : e ≤ P) :
    (text.take P ++ tail).take s ++ x ++ (text.take P ++ tail).drop e =
      text.take s ++ (x ++ (text.drop e).take (P - e) ++ tail) := by
  have hlen : (text.take P).length = P := by simp [List.length_take]; omega
  rw [List.take_append_of_le_length (by omega), List.take_take, List.drop_append_of_le_length (by omega),
    Nat.min_eq_left (by omega), List.drop_take]
  simp only [List.append_assoc]

theorem mem_of_snoc_prefix {p Y Z : List α} {x : α} (h : p ++ [x] <+: Y ++ Z) (hl : p.length < Y.length) :
    x ∈ Y := by
  have := List.prefix_iff_eq_take.mp h
  rw [List.take_append_of_le_length (by simp; omega)] at this
  exact List.mem_of_mem_take (this ▸ List.mem_append_right p (List.mem_singleton_self x))

theorem drop_of_prefixes {a b c : List α} (h1 : a <+: b) (h2 : b <+: c) :
    c.drop a.length = b.drop a.length ++ c.drop b.length := by
  obtain ⟨x, rfl⟩ := h1
  obtain ⟨y, rfl⟩ := h2
  simp [List.append_assoc]

theorem flatMap_congr {β} {l : List α} {f g : α → List β} (h : ∀ a ∈ l, f a = g a) : l.flatMap f = l.flatMap g := by
  rw [List.flatMap_def, List.flatMap_def, List.map_congr_left h]

theorem flatMap_eq_self (f : α → List α) (l : List α) (h : ∀ a ∈ l, f a = [a]) : l.flatMap f = l :=
  (flatMap_congr h).trans (List.flatMap_singleton' l)

theorem flatMap_unless_isEmpty {β} (f : α → List β) (t : List β) (x : α) (h : f x = t) :
    (if t.isEmpty then [] else [x]).flatMap f = t := by
  split
  · rename_i ht; rw [List.isEmpty_iff.mp ht]; rfl
  · rw [← h]; exact List.append_nil _

theorem filterMap_flatMap_nil {β γ} {f : α → List β} {g : β → Option γ} (h : ∀ a, (f a).filterMap g = [])
    (l : List α) : (l.flatMap f).filterMap g = [] := by
  rw [List.filterMap_flatMap]; exact List.flatMap_eq_nil_iff.mpr fun a _ => h a

theorem foldl_keeps {σ β γ} (φ : σ → γ) {step : σ → β → σ} {l : List β} (h : ∀ s, ∀ a ∈ l, φ (step s a) = φ s)
    (s : σ) : φ (l.foldl step s) = φ s :=
  List.foldlRecOn (motive := fun x => φ x = φ s) l step rfl fun b hb a ha => (h b a ha).trans hb

theorem foldl_fixed {σ β} {step : σ → β → σ} {l : List β} (h : ∀ s, ∀ a ∈ l, step s a = s) (s : σ) :
    l.foldl step s = s :=
  foldl_keeps id h s

theorem foldl_count {σ α} (step : σ → α → σ) (m : σ → Nat) (h : ∀ a x, m (step a x) = m a + 1) (l : List α) :
    ∀ a, m (l.foldl step a) = m a + l.length := by
  induction l with
  | nil => intro a; rfl
  | cons x r ih => intro a; rw [List.foldl_cons, ih, h, List.length_cons, Nat.add_assoc, Nat.add_comm 1]

/-- A fold whose step never lowers its accumulator ends above its start, and above every `k` that the step of one
of the elements is sure to reach: how each "largest id in use" scan bounds the ids it has seen. -/
theorem foldl_max {α} (step : Nat → α → Nat) (hm : ∀ m a, m ≤ step m a) (l : List α) :
    ∀ m0, m0 ≤ l.foldl step m0 ∧ ∀ a ∈ l, ∀ k, (∀ m, k ≤ step m a) → k ≤ l.foldl step m0 := by
  induction l with
  | nil => exact fun m0 => ⟨Nat.le_refl _, fun a ha => nomatch ha⟩
  | cons x r ih =>
    intro m0
    obtain ⟨h1, h2⟩ := ih (step m0 x)
    refine ⟨Nat.le_trans (hm m0 x) h1, fun a ha k hk => ?_⟩
    rcases List.mem_cons.mp ha with rfl | ha
    · exact Nat.le_trans (hk m0) h1
    · exact h2 a ha k hk

end Adeu
