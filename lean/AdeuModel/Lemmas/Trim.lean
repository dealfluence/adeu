import AdeuModel.Model.Trim
import AdeuModel.Lemmas.List
namespace Adeu.Trim
open Adeu

theorem cpl_le : ∀ t n : Str, commonPrefixLen t n ≤ min t.length n.length
  | [], _ | _ :: _, [] => Nat.zero_le _
  | a :: t, b :: n => by
    unfold commonPrefixLen
    split
    · exact Nat.succ_min_succ .. ▸ Nat.succ_le_succ (cpl_le t n)
    · exact Nat.zero_le _

theorem cpl_take (t n : Str) (k : Nat) (hk : k ≤ commonPrefixLen t n) : t.take k = n.take k := by
  fun_induction commonPrefixLen t n generalizing k with
  | case1 a as bs ih =>
    cases k with
    | zero => rfl
    | succ k => simp [ih k (by omega)]
  | case2 | case3 => simp [show k = 0 by omega]

/-- an `if` is bounded by what bounds both branches: each loop of `trim` either steps on to the left or stops -/
theorem ite_le {c : Prop} [Decidable c] {a b p : Nat} (ha : a ≤ p) (hb : b ≤ p) : (if c then a else b) ≤ p := by
  split
  · exact ha
  · exact hb

theorem backWord_le (sp : Char → Bool) (t : Str) : ∀ p, backWord sp t p ≤ p
  | 0 => Nat.le_refl 0
  | p + 1 => by
    rw [backWord]
    split
    · exact ite_le (Nat.le_succ_of_le (backWord_le sp t p)) (Nat.le_refl _)
    · exact Nat.le_refl _

theorem lineStart_le (t : Str) : ∀ p, lineStart t p ≤ p
  | 0 => Nat.le_refl 0
  | p + 1 => ite_le (Nat.le_refl _) (Nat.le_succ_of_le (lineStart_le t p))

theorem balPrefix_le (t : Str) : ∀ p, balPrefix t p ≤ p
  | 0 => Nat.le_refl 0
  | p + 1 => ite_le (Nat.le_succ_of_le (balPrefix_le t p)) (Nat.le_refl _)

theorem balSuffix_le (t : Str) : ∀ s, balSuffix t s ≤ s
  | 0 => Nat.le_refl 0
  | s + 1 => ite_le (Nat.le_succ_of_le (balSuffix_le t s)) (Nat.le_refl _)

theorem hashScan_le (t : Str) (p temp : Nat) (h : temp ≤ p) : hashScan t p temp ≤ p := by
  fun_induction hashScan t p temp with
  | case2 temp => have := lineStart_le t temp; omega
  | case1 | case3 | case4 => omega

theorem prefixPhase_le (sp : Char → Bool) (t n : Str) : prefixPhase sp t n ≤ commonPrefixLen t n :=
  Nat.le_trans (balPrefix_le ..) (Nat.le_trans (hashScan_le _ _ _ (Nat.le_refl _)) (ite_le (backWord_le ..) (Nat.le_refl _)))

theorem suffixPhase_le (sp : Char → Bool) (t n : Str) (p : Nat) :
    suffixPhase sp t n p ≤ min (commonPrefixLen t.reverse n.reverse) (min (t.length - p) (n.length - p)) := by
  unfold suffixPhase
  simp only
  generalize min (commonPrefixLen t.reverse n.reverse) (min (t.length - p) (n.length - p)) = s0
  generalize hs1 : (if 0 < s0 ∧ s0 < t.length then backWord sp t.reverse s0 else s0) = s1
  have h1 : s1 ≤ s0 := hs1 ▸ ite_le (backWord_le ..) (Nat.le_refl _)
  split
  · exact Nat.zero_le _
  · exact Nat.le_trans (balSuffix_le t s1) h1

/-- What every phase of `trim` preserves: `t` and `n` share a front of `ps.1` and a back of `ps.2` characters.
Absorbing a marker and reassembling the new text are then regroupings of `++`, with no take/drop
arithmetic. -/
def Common (t n : Str) (ps : Nat × Nat) : Prop :=
  ∃ P T N S, t = P ++ T ++ S ∧ n = P ++ N ++ S ∧ ps = (P.length, S.length)

theorem Common.of_take_drop {t n : Str} {p s : Nat} (ht : p + s ≤ t.length) (hn : p + s ≤ n.length)
    (hp : t.take p = n.take p) (hs : t.drop (t.length - s) = n.drop (n.length - s)) : Common t n (p, s) := by
  refine ⟨t.take p, (t.take (t.length - s)).drop p, (n.take (n.length - s)).drop p,
    t.drop (t.length - s), (take_mid_drop t _ _ ht).symm, ?_, ?_⟩
  · rw [hp, hs, take_mid_drop n _ _ hn]
  · rw [List.length_take, List.length_drop, Nat.min_eq_left (Nat.le_trans (Nat.le_add_right p s) ht),
      Nat.sub_sub_self (Nat.le_trans (Nat.le_add_left s p) ht)]

theorem phases_common (sp : Char → Bool) (t n : Str) :
    Common t n (prefixPhase sp t n, suffixPhase sp t n (prefixPhase sp t n)) := by
  have hp := prefixPhase_le sp t n
  obtain ⟨hs, hs'⟩ := Nat.le_min.mp (suffixPhase_le sp t n (prefixPhase sp t n))
  obtain ⟨hst, hsn⟩ := Nat.le_min.mp hs'
  obtain ⟨hl, hr⟩ := Nat.le_min.mp (cpl_le t n)
  exact .of_take_drop (Nat.add_le_of_le_sub' (Nat.le_trans hp hl) hst) (Nat.add_le_of_le_sub' (Nat.le_trans hp hr) hsn)
    (cpl_take t n _ hp) (drop_eq_of_rev_take (cpl_take _ _ _ hs))

theorem wrapped_of_startsWith_endsWith {m T : Str} (h1 : startsWith T m = true) (h2 : endsWith T m = true)
    (hl : T.length > 2 * m.length) : ∃ T', T = m ++ T' ++ m := by
  simp only [startsWith, endsWith, Bool.and_eq_true, decide_eq_true_eq, beq_iff_eq] at h1 h2
  exact ⟨_, (wrapped (List.prefix_iff_eq_take.mpr h1.symm) (List.suffix_iff_eq_drop.mpr h2.2.symm) (by omega)).symm⟩

theorem absorb_common (t n m : Str) (ps : Nat × Nat) (h : Common t n ps) : Common t n (absorb t n m ps) := by
  obtain ⟨P, T, N, S, rfl, rfl, rfl⟩ := h
  unfold absorb
  simp only [mid_split]
  split
  · rename_i hc
    simp only [Bool.and_eq_true, decide_eq_true_eq] at hc
    obtain ⟨⟨⟨⟨⟨hst, hsn⟩, het⟩, hen⟩, hlt⟩, hln⟩ := hc
    obtain ⟨T', rfl⟩ := wrapped_of_startsWith_endsWith hst het hlt
    obtain ⟨N', rfl⟩ := wrapped_of_startsWith_endsWith hsn hen hln
    exact ⟨P ++ m, T', N', m ++ S, by simp, by simp, by simp [Nat.add_comm]⟩
  · exact ⟨P, T, N, S, rfl, rfl, rfl⟩

theorem trim_common (sp : Char → Bool) (t n : Str) : Common t n (trim sp t n) := by
  unfold trim
  split
  · exact ⟨[], t, n, [], by simp, by simp, rfl⟩
  · exact absorb_common _ _ _ _ (absorb_common _ _ _ _ (phases_common sp t n))

end Adeu.Trim
