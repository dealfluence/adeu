import AdeuModel.Lemmas.MetaIds
import AdeuModel.Lemmas.ExtractRaw
import AdeuModel.Lemmas.Items
import AdeuModel.Lemmas.MapNodes
/-
Layer D — a paragraph without revision marks and comment ranges reads the same in both views: its raw view has
no wrapper and no metadata block.  (What is left after accept-all / after every change was resolved.)
-/
namespace Adeu.Doc
open Adeu Adeu.Markup

def emptySnap : Snap := { ins := [], del := [], comments := [] }

def isPlainSeg : Seg → Bool | .plain _ => true | _ => false

theorem metaBlock_empty (cm : CMap) : ∀ states : List Snap, (∀ s ∈ states, s = emptySnap) → metaBlock cm states = [] := by
  intro states h
  -- a snapshot with nothing open adds no line
  rw [metaBlock_eq, foldl_fixed fun acc s hs => by rw [h s hs]; rfl]
  rfl

/-- invariant of the ghost walk over quiet items -/
structure Quiet (g : List Seg) (s : PSt) : Prop where
  plain : ∀ sg ∈ g, isPlainSeg sg = true
  wr : s.wr = nW
  ins : s.ins = []
  del : s.del = []
  comments : s.comments = []
  deferred : ∀ x ∈ s.deferred, x = emptySnap

theorem segOf_nW (t : Str) : segOf nW t = .plain t :=
  (segOf_eq nW t).trans (congrArg (tagSeg · t) (tagW_wOf .plain))

theorem Quiet.flush {g : List Seg} {s : PSt} (h : Quiet g s) : Quiet (gFlush g s) s.flush := by
  refine ⟨?_, PSt.flush_wr s h.wr, (PSt.flush_ins s).trans h.ins, (PSt.flush_del s).trans h.del,
    (PSt.flush_comments s).trans h.comments, (PSt.flush_deferred s) ▸ h.deferred⟩
  unfold gFlush
  split
  · exact h.plain
  · -- the flushed buffer has no wrappers
    exact List.forall_mem_append.2 ⟨h.plain, List.forall_mem_singleton.2 (by rw [h.wr, segOf_nW]; rfl)⟩

/-- no mark is open, so no move of the walk opens a wrapper, and the metadata blocks are empty -/
theorem Quiet.loop (cm : CMap) (its : List Item) (g : List Seg) (s : PSt) (h : Quiet g s)
    (hq : ∀ it ∈ its, quietItem it = true) : Quiet (gLoop cm g s its).1 (gLoop cm g s its).2 := by
  refine gLoop_inv cm (Q := fun it => quietItem it = true) (fun _ _ h => h.flush) ?_ ?_ ?_ ?_ ?_ its g s hq h
  · intro g s ty id a hq h
    -- a quiet event is a reference
    cases ty <;> first | exact h | cases hq
  · exact fun g s seg h => { h with }
  · exact fun g s seg h => { h with wr := by rw [h.ins, h.del, h.comments]; rfl }
  · exact fun g s h => { h with deferred := List.forall_mem_append.2 ⟨h.deferred,
      List.forall_mem_singleton.2 (by rw [snapOf, h.ins, h.del, h.comments]; rfl)⟩ }
  · intro g s h
    rw [metaBlock_empty cm _ h.deferred]
    exact { h with plain := by simpa [noteSegs] using h.plain, deferred := fun x hx => nomatch hx }

theorem render_eq_acceptView_of_plain : ∀ segs : List Seg, (∀ sg ∈ segs, isPlainSeg sg = true) → render segs = acceptView segs
  | [], _ => rfl
  | sg :: rest, h => by
    obtain ⟨hs, hr⟩ := List.forall_mem_cons.1 h
    rw [render_cons, acceptView_cons, render_eq_acceptView_of_plain rest hr]
    -- a plain segment is rendered as its text, and accepted as its text
    cases sg with
    | plain t => rfl
    | _ => cases hs

/-- A paragraph whose content opens no insertion, deletion or comment range reads the same in the raw and in the
accepted view: no wrapper, no metadata block. -/
theorem paraText_quiet (cm : CMap) (p : Para) (hq : ∀ it ∈ items p, quietItem it = true) :
    paraText false cm p = paraText true cm p := by
  rw [paraText_raw_render, ← rawSegs_accept]
  apply render_eq_acceptView_of_plain
  have hl := Quiet.loop cm (items p) [] {} ⟨(by intro sg h; cases h), rfl, rfl, rfl, rfl, (by intro x h; cases h)⟩ hq
  have hf := hl.flush
  unfold rawSegs
  simp only
  split
  · exact hf.plain
  · rw [metaBlock_empty cm _ hl.deferred]
    exact List.forall_mem_append.2 ⟨hf.plain, fun sg h => nomatch h⟩

theorem tree_quiet (cm : CMap) :
    (∀ bs, (∀ n ∈ allNodesBlocks bs, quietNode n = true) → blocksText false cm bs = blocksText true cm bs) ∧
    (∀ rows, (∀ n ∈ allNodesRows rows, quietNode n = true) → rowsCellTexts false cm rows = rowsCellTexts true cm rows) ∧
    (∀ cells, (∀ n ∈ allNodesCells cells, quietNode n = true) → cellsTexts false cm cells = cellsTexts true cm cells) := by
  apply blocks_induction_nodes (H := fun S => ∀ n ∈ S, quietNode n = true) List.forall_mem_append.mp
  case para => intro p rest hp ih; rw [blocksText, blocksText, paraText_quiet cm p (itemsFrom_quiet _ _ _ hp), ih]
  case table => intro pr g rows rest ihr ih; rw [blocksText, blocksText, tableText, tableText, ihr, ih]
  -- every other case: one step of the reading, then the induction hypotheses
  all_goals intros; simp only [blocksText, rowsCellTexts, cellsTexts, *]

theorem blocks_quiet (cm : CMap) : ∀ (bs : List Block), (∀ n ∈ allNodesBlocks bs, quietNode n = true) →
      blocksText false cm bs = blocksText true cm bs :=
  (tree_quiet cm).1
theorem rows_quiet (cm : CMap) : ∀ (rows : List Row), (∀ n ∈ allNodesRows rows, quietNode n = true) →
      rowsCellTexts false cm rows = rowsCellTexts true cm rows :=
  (tree_quiet cm).2.1
theorem cells_quiet (cm : CMap) : ∀ (cells : List Cell), (∀ n ∈ allNodesCells cells, quietNode n = true) →
      cellsTexts false cm cells = cellsTexts true cm cells :=
  (tree_quiet cm).2.2

theorem allNodes_mapNodes (f : List Node → List Node) (hf : ∀ ns, ∀ n ∈ f ns, quietNode n = true) :
      ∀ (bs : List Block), ∀ n ∈ allNodesBlocks (mapNodesBlocks f bs), quietNode n = true :=
  (mapNodes_nodes f hf).1
theorem allNodesRows_mapNodes (f : List Node → List Node) (hf : ∀ ns, ∀ n ∈ f ns, quietNode n = true) :
      ∀ (rows : List Row), ∀ n ∈ allNodesRows (mapNodesRows f rows), quietNode n = true :=
  (mapNodes_nodes f hf).2.1
theorem allNodesCells_mapNodes (f : List Node → List Node) (hf : ∀ ns, ∀ n ∈ f ns, quietNode n = true) :
      ∀ (cells : List Cell), ∀ n ∈ allNodesCells (mapNodesCells f cells), quietNode n = true :=
  (mapNodes_nodes f hf).2.2

end Adeu.Doc
