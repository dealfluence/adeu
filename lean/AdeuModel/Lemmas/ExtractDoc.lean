import AdeuModel.Lemmas.ExtractRaw
/-
Layer D — the raw view read with every annotation accepted.  `Reads raw clean` : the raw string is the
rendering of a *flat* list of CriticMarkup segments (balanced, never nested) whose accepted reading is
`clean`.  Here: the relation, what the CriticMarkup reader makes of it, and the paragraph; the lifting
to blocks, nested tables and whole documents is done once, for three readings at a time, in
`ExtractAll` (`doc_reads` there).
-/
namespace Adeu.Doc
open Adeu Adeu.Markup

def Reads (raw clean : Str) : Prop :=
  ∃ segs : List Seg, raw = render segs ∧ acceptView segs = clean ∧ BraceFree segs

theorem braceFree_of_B {segs : List Seg} (h : braceFreeB segs = true) : BraceFree segs := by
  intro sg hsg c hc
  unfold braceFreeB at h
  have := (List.all_eq_true.1 h) sg hsg
  have := (List.all_eq_true.1 this) c hc
  simpa using this

theorem BraceFree.append {a b : List Seg} (ha : BraceFree a) (hb : BraceFree b) : BraceFree (a ++ b) := by
  intro sg hsg
  rcases List.mem_append.1 hsg with h | h
  · exact ha sg h
  · exact hb sg h

theorem Reads.append {a a' b b' : Str} (h1 : Reads a a') (h2 : Reads b b') : Reads (a ++ b) (a' ++ b') := by
  obtain ⟨s1, r1, c1, b1⟩ := h1
  obtain ⟨s2, r2, c2, b2⟩ := h2
  exact ⟨s1 ++ s2, by simp [r1, r2], by simp [c1, c2], BraceFree.append b1 b2⟩

theorem Reads.parse {raw clean : Str} (h : Reads raw clean) : (parse raw).map acceptView = some clean := by
  obtain ⟨segs, r, c, b⟩ := h
  rw [r, parse_render segs b]
  simp [acceptView_normAcc, c]

/-- with the motive given, nothing has to look into the branches or the condition (`split` on `paraPrefix` is slow) -/
theorem ite_of {α} (P : α → Prop) {c : Prop} [Decidable c] {a b : α} (ha : P a) (hb : P b) : P (if c then a else b) := by
  split <;> assumption

/-- a heading prefix is `#`s and a blank, or nothing: what holds of these holds of every prefix -/
theorem paraPrefix_cases {P : Str → Prop} (h0 : P []) (hk : ∀ k, P (List.replicate k '#' ++ [' '])) (p : Para) :
    P (paraPrefix p) := by
  unfold paraPrefix
  extract_lets sn rest heading text caps firstBold
  -- the numbered heading styles
  have hh : ∀ h, heading = some h → P h :=
    fun h => ite_of (· = some h → P h) (ite_of (· = some h → P h) (fun e => Option.some.inj e ▸ hk _) (fun e => nomatch e))
      (fun e => nomatch e)
  clear_value heading text caps firstBold sn
  cases heading with
  | some h => exact hh h rfl
  | none =>
    -- the title, and a short all-capitals line that starts in bold
    exact ite_of P (hk 1) (ite_of P (ite_of P (ite_of P (hk 2) h0) h0) h0)

theorem paraPrefix_braceFree (p : Para) : ∀ c ∈ paraPrefix p, c ≠ '{' ∧ c ≠ '}' := by
  refine paraPrefix_cases (P := fun x => ∀ c ∈ x, c ≠ '{' ∧ c ≠ '}') (fun _ h => nomatch h) (fun k c hc => ?_) p
  rcases List.mem_append.1 hc with h | h
  · rw [(List.mem_replicate.1 h).2]; decide
  · rw [List.mem_singleton.1 h]; decide

theorem render_eq_nil_accept : ∀ segs : List Seg, render segs = [] → acceptView segs = []
  | [], _ => rfl
  | sg :: rest, h => by
    rw [render_cons, List.append_eq_nil_iff] at h
    rw [acceptView_cons, render_eq_nil_accept rest h.2, List.append_nil]
    -- only an empty plain segment renders to nothing: every other one starts with '{'
    rcases sg.block with ⟨s, rfl⟩ | ⟨op, cl, mk, ho, hr, _⟩
    · exact h.1
    · obtain ⟨⟨a, b, rfl, _⟩, _⟩ := openers_row op cl mk ho
      rw [hr] at h
      exact nomatch h.1

/-- a container is dropped as empty from both views or from neither, unless it is empty in the accepted view and not in
the raw view - which `he` (what `domBlocks` / `domDoc` ask of every table and story) rules out -/
theorem Reads.isEmpty_eq {raw clean : Str} (h : Reads raw clean) (he : clean.isEmpty = false ∨ raw.isEmpty = true) :
    clean.isEmpty = raw.isEmpty := by
  obtain ⟨segs, r, c, _⟩ := h
  cases hr : raw.isEmpty
  · exact he.resolve_right (by simp [hr])
  · rw [← c, render_eq_nil_accept segs (by rw [← r]; exact List.isEmpty_iff.1 hr)]
    rfl

inductive All2 (R : α → β → Prop) : List α → List β → Prop
  | nil : All2 R [] []
  | cons {a b as bs} : R a b → All2 R as bs → All2 R (a :: as) (b :: bs)

theorem All2.length {R : α → β → Prop} : ∀ {as : List α} {bs : List β}, All2 R as bs → as.length = bs.length := by
  intro as bs h
  induction h with
  | nil => rfl
  | cons _ _ ih => exact congrArg (· + 1) ih

theorem para_reads (cm : CMap) (p : Para) (h : braceFreeB (rawSegs cm p) = true) :
    Reads (paraText false cm p) (paraText true cm p) :=
  ⟨rawSegs cm p, paraText_raw_render cm p, rawSegs_accept cm p, braceFree_of_B h⟩

end Adeu.Doc
