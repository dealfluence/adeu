import AdeuModel.Lemmas.ExtractTags
import AdeuModel.Lemmas.Blocks
/-
Layer D — the reader's layout, walked once.  What is known of a paragraph - one segment list behind its raw text, its
text in the view that the flag `clean` names, and its tagged characters - is lifted through blocks, nested tables
(python-docx's `row.cells` substitution for merged cells included) and the header / body / footer stories, for any relation
that goes through `++` and separators (`Lifts`, `tree_lifts`, `doc_lifts`).  Two relations are lifted: `Reads3` (one
segment list for raw string, accepted text, brace-freeness and tags) for the accepted view, and `ReadsT` for the raw view
beside itself.  The one place where the raw and the accepted view can part is a container (table, story) that is dropped as
empty in one view and kept in the other; `domBlocks` / `domDoc` say that this does not happen
(C04_deleted_only_container_counterexample shows that the hypothesis is needed, open finding F-deleted-only-container).
Consequences: the two-reading statements (`doc_reads`), the annotation of the raw view (`doc_tagged`, no hypothesis), and
the accepted view stated on the document's own characters:
  accepted view = the characters of `docTagged d` that are not tagged deleted, in order.
-/
namespace Adeu.Doc
open Adeu Adeu.Markup

def Reads3 (raw clean : Str) (T : List TChar) : Prop :=
  ∃ segs : List Seg, raw = render segs ∧ acceptView segs = clean ∧ BraceFree segs ∧ tagsOf segs = T

def keptChars (T : List TChar) : Str := (T.filter fun tc => tc.2 != Tag.del).map (·.1)

/-- for any flat segment list: its accepted reading is what its tagged characters say -/
theorem acceptView_eq_kept : ∀ segs : List Seg, acceptView segs = keptChars (tagsOf segs)
  | [] => rfl
  | sg :: rest => by
    have hk : keptChars (tagsOf (sg :: rest)) = keptChars sg.tagged ++ keptChars (tagsOf rest) := by
      simp [keptChars, tagsOf]
    rw [acceptView_cons, hk, acceptView_eq_kept rest]
    congr 1
    symm
    cases sg <;> simp [Seg.accepted, Seg.tagged, keptChars, List.filter_map, Function.comp_def]

theorem Reads3.plain (s : Str) (hs : ∀ c ∈ s, c ≠ '{' ∧ c ≠ '}') : Reads3 s s (plainT s) :=
  ⟨[.plain s], by simp, by simp [Seg.accepted], (by
    intro sg h c hc
    simp at h; subst h
    exact hs c hc), by simp [Seg.tagged, plainT]⟩
theorem Reads3.append {a a' b b' : Str} {A B : List TChar} (h1 : Reads3 a a' A) (h2 : Reads3 b b' B) :
    Reads3 (a ++ b) (a' ++ b') (A ++ B) := by
  obtain ⟨s1, r1, c1, b1, t1⟩ := h1
  obtain ⟨s2, r2, c2, b2, t2⟩ := h2
  exact ⟨s1 ++ s2, by simp [r1, r2], by simp [c1, c2], BraceFree.append b1 b2, by simp [t1, t2]⟩

theorem Reads3.reads {raw clean : Str} {T : List TChar} (h : Reads3 raw clean T) : Reads raw clean := by
  obtain ⟨segs, r, c, b, _⟩ := h
  exact ⟨segs, r, c, b⟩

inductive All3 (R : α → β → γ → Prop) : List α → List β → List γ → Prop
  | nil : All3 R [] [] []
  | cons {a b c as bs cs} : R a b c → All3 R as bs cs → All3 R (a :: as) (b :: bs) (c :: cs)

theorem All3.get {R : α → β → γ → Prop} {da : α} {db : β} {dc : γ} (hd : R da db dc) :
    ∀ {as : List α} {bs : List β} {cs : List γ}, All3 R as bs cs → ∀ i : Nat,
      R ((as[i]?).getD da) ((bs[i]?).getD db) ((cs[i]?).getD dc) := by
  intro as bs cs h
  induction h with
  | nil => exact fun _ => hd
  | cons h _ ih => exact fun i => match i with | 0 => h | i + 1 => ih i

theorem All3.map_fn {R : δ → ε → ζ → Prop} (f : α → δ) (g : α → ε) (k : α → ζ) (h : ∀ x, R (f x) (g x) (k x)) :
    ∀ l : List α, All3 R (l.map f) (l.map g) (l.map k)
  | [] => .nil
  | x :: r => .cons (h x) (All3.map_fn f g k h r)

/-- What lifts from paragraphs to documents.  `R raw x T` relates a piece of the raw view, the same piece of the view that
the reader's flag `clean` names, and its tagged characters.  If `R` holds of text without braces beside itself, goes through
`++`, holds of every paragraph (in the domain, when `clean`), and tells when a container is dropped as empty from both views or
from neither, then it holds of blocks, rows, cells, tables, stories and documents (`tree_lifts`, `doc_lifts`): the reader's
layout is walked once.  `Reads3` is such a relation for the accepted view; for the raw view beside itself, `ReadsT` is. -/
structure Lifts (cm : CMap) (clean : Bool) (R : Str → Str → List TChar → Prop) : Prop where
  plain : ∀ s : Str, (∀ c ∈ s, c ≠ '{' ∧ c ≠ '}') → R s s (plainT s)
  append : ∀ {a a' b b' A B}, R a a' A → R b b' B → R (a ++ b) (a' ++ b') (A ++ B)
  para : ∀ p, (clean → braceFreeB (rawSegs cm p)) →
    R (paraText false cm p) (paraText clean cm p) (taggedSpec [] [] [] (items p))
  empty : ∀ {a b T}, R a b T → (clean → b.isEmpty = false ∨ a.isEmpty = true) → b.isEmpty = a.isEmpty

theorem Reads3.lifts (cm : CMap) : Lifts cm true Reads3 where
  plain := Reads3.plain
  append := Reads3.append
  para p h := ⟨rawSegs cm p, paraText_raw_render cm p, rawSegs_accept cm p, braceFree_of_B (h rfl), rawSegs_tagged cm p⟩
  empty h he := h.reads.isEmpty_eq (he rfl)

theorem ReadsT.lifts (cm : CMap) : Lifts cm false fun raw x T => x = raw ∧ ReadsT raw T where
  plain s _ := ⟨rfl, ReadsT.plain s⟩
  append h1 h2 := ⟨h1.1 ▸ h2.1 ▸ rfl, h1.2.append h2.2⟩
  para p _ := ⟨rfl, rawSegs cm p, paraText_raw_render cm p, rawSegs_tagged cm p⟩
  empty h _ := h.1 ▸ rfl

section
variable {cm : CMap} {clean : Bool} {R : Str → Str → List TChar → Prop}

theorem Lifts.joinWith (L : Lifts cm clean R) (sep : Str) (hs : ∀ c ∈ sep, c ≠ '{' ∧ c ≠ '}') :
    ∀ {as bs : List Str} {cs : List (List TChar)}, All3 R as bs cs → R (joinWith sep as) (joinWith sep bs) (joinT sep cs) := by
  intro as bs cs h
  induction h with
  | nil => exact L.plain [] nofun
  | cons h t ih =>
    -- a single part is itself; before any further part goes the separator, as plain text
    cases t with
    | nil => exact h
    | cons _ _ => exact L.append (L.append h (L.plain sep hs)) ih

theorem Lifts.table (L : Lifts cm clean R) (rows : List Row)
    (h : All3 (All3 R) (rowsCellTexts false cm rows) (rowsCellTexts clean cm rows) (rowsCellTagged cm rows)) :
    R (tableText false cm rows) (tableText clean cm rows) (tableTagged cm rows) := by
  unfold tableText tableTagged
  simp only
  apply L.joinWith _ (by decide)
  apply All3.map_fn
  intro ri
  apply L.joinWith _ (by decide)
  apply All3.map_fn
  intro rc
  obtain ⟨r, c⟩ := rc
  simp only
  exact All3.get (L.plain [] nofun) (All3.get (R := All3 R) (da := []) (db := []) (dc := []) .nil h r) c

theorem tree_lifts (L : Lifts cm clean R) :
    (∀ bs, (clean → domBlocks cm bs) →
      All3 R (blocksText false cm bs) (blocksText clean cm bs) (blocksTagged cm bs)) ∧
    (∀ rows, (clean → domRows cm rows) →
      All3 (All3 R) (rowsCellTexts false cm rows) (rowsCellTexts clean cm rows) (rowsCellTagged cm rows)) ∧
    (∀ cells, (clean → domCells cm cells) →
      All3 R (cellsTexts false cm cells) (cellsTexts clean cm cells) (cellsTagged cm cells)) := by
  apply blocks_induction
  · intro _; simp only [blocksText, blocksTagged]; exact .nil
  · intro p rest ih h
    simp only [domBlocks, Bool.and_eq_true] at h
    simp only [blocksText, blocksTagged]
    exact .cons (L.append (L.plain _ (paraPrefix_braceFree p)) (L.para p fun e => (h e).1)) (ih fun e => (h e).2)
  · intro pr g rows rest ihr ih h
    simp only [domBlocks, Bool.and_eq_true, Bool.or_eq_true, Bool.not_eq_true'] at h
    have ht := L.table rows (ihr fun e => (h e).1.2)
    -- all three drop the table, or all three keep it (`domBlocks` speaks of the accepted view: there `clean` is `true`)
    simp only [blocksText, blocksTagged, L.empty ht fun e => by cases e; exact (h rfl).1.1]
    split
    · exact ih fun e => (h e).2
    · exact .cons ht (ih fun e => (h e).2)
  · intro x rest ih h
    simp only [domBlocks] at h
    simp only [blocksText, blocksTagged]
    exact ih h
  · intro _; simp only [rowsCellTexts, rowsCellTagged]; exact .nil
  · intro pr cells rest ihc ih h
    simp only [domRows, Bool.and_eq_true] at h
    simp only [rowsCellTexts, rowsCellTagged]
    exact .cons (ihc fun e => (h e).1) (ih fun e => (h e).2)
  · intro _; simp only [cellsTexts, cellsTagged]; exact .nil
  · intro pr s v blocks rest ihb ih h
    simp only [domCells, Bool.and_eq_true] at h
    simp only [cellsTexts, cellsTagged]
    exact .cons (L.joinWith _ (by decide) (ihb fun e => (h e).1)) (ih fun e => (h e).2)

theorem parts_lifts (L : Lifts cm clean R) : ∀ parts : List (List Block),
    (clean → parts.all fun bs =>
      domBlocks cm bs && (!(containerText true cm bs).isEmpty || (containerText false cm bs).isEmpty)) →
    All3 R ((parts.map (containerText false cm)).filter (!·.isEmpty)) ((parts.map (containerText clean cm)).filter (!·.isEmpty))
      ((parts.filter fun bs => !(containerText false cm bs).isEmpty).map fun bs => joinT ['\n', '\n'] (blocksTagged cm bs))
  | [], _ => .nil
  | bs :: rest, h => by
    simp only [List.all_cons, Bool.and_eq_true, Bool.or_eq_true, Bool.not_eq_true'] at h
    have ih := parts_lifts L rest fun e => (h e).2
    have hb : R (containerText false cm bs) (containerText clean cm bs) (joinT ['\n', '\n'] (blocksTagged cm bs)) :=
      L.joinWith _ (by decide) ((tree_lifts L).1 bs fun e => (h e).1.1)
    simp only [List.map_cons, List.filter_cons, L.empty hb fun e => by cases e; exact (h rfl).1.2]
    split
    · exact .cons hb ih
    · exact ih

theorem doc_lifts {d : Document} (L : Lifts (commentsMap d) clean R) (h : clean → domDoc d) :
    R (extractText false d) (extractText clean d) (docTagged d) := by
  unfold extractText docTagged
  exact L.joinWith _ (by decide) (parts_lifts L (docParts d) h)

end

theorem rows_reads3 (cm : CMap) : ∀ (rows : List Row), domRows cm rows = true →
      All3 (All3 Reads3) (rowsCellTexts false cm rows) (rowsCellTexts true cm rows) (rowsCellTagged cm rows) :=
  fun rows h => (tree_lifts (Reads3.lifts cm)).2.1 rows fun _ => h
theorem cells_reads3 (cm : CMap) : ∀ (cells : List Cell), domCells cm cells = true →
      All3 Reads3 (cellsTexts false cm cells) (cellsTexts true cm cells) (cellsTagged cm cells) :=
  fun cells h => (tree_lifts (Reads3.lifts cm)).2.2 cells fun _ => h
theorem doc_reads3 (d : Document) (h : domDoc d = true) : Reads3 (extractText false d) (extractText true d) (docTagged d) :=
  doc_lifts (Reads3.lifts _) fun _ => h

theorem All3.left {R : α → β → γ → Prop} {S : α → β → Prop} (h : ∀ a b c, R a b c → S a b) :
    ∀ {as : List α} {bs : List β} {cs : List γ}, All3 R as bs cs → All2 S as bs := by
  intro as bs cs t
  induction t with
  | nil => exact .nil
  | cons x _ ih => exact .cons (h _ _ _ x) ih

theorem All3.outer {R : α → β → γ → Prop} {S : α → γ → Prop} (h : ∀ a b c, R a b c → S a c) :
    ∀ {as : List α} {bs : List β} {cs : List γ}, All3 R as bs cs → All2 S as cs := by
  intro as bs cs t
  induction t with
  | nil => exact .nil
  | cons x _ ih => exact .cons (h _ _ _ x) ih

theorem rows_readsT (cm : CMap) : ∀ (rows : List Row),
      All2 (All2 ReadsT) (rowsCellTexts false cm rows) (rowsCellTagged cm rows) :=
  fun rows => ((tree_lifts (ReadsT.lifts cm)).2.1 rows nofun).outer fun _ _ _ x => x.outer fun _ _ _ y => y.2
theorem cells_readsT (cm : CMap) : ∀ (cells : List Cell), All2 ReadsT (cellsTexts false cm cells) (cellsTagged cm cells) :=
  fun cells => ((tree_lifts (ReadsT.lifts cm)).2.2 cells nofun).outer fun _ _ _ y => y.2
/-- The raw view of a whole document is the rendering of a flat segment list whose text characters, tagged with
the kind of block they stand in, are `docTagged d`. -/
theorem doc_tagged (d : Document) : ReadsT (extractText false d) (docTagged d) := (doc_lifts (ReadsT.lifts _) nofun).2

theorem rows_reads (cm : CMap) : ∀ (rows : List Row), domRows cm rows = true →
      All2 (All2 Reads) (rowsCellTexts false cm rows) (rowsCellTexts true cm rows) :=
  fun rows h => (rows_reads3 cm rows h).left fun _ _ _ x => x.left fun _ _ _ y => y.reads
theorem cells_reads (cm : CMap) : ∀ (cells : List Cell), domCells cm cells = true →
      All2 Reads (cellsTexts false cm cells) (cellsTexts true cm cells) :=
  fun cells h => (cells_reads3 cm cells h).left fun _ _ _ y => y.reads

/-- The raw view of a whole document is a flat, balanced CriticMarkup rendering whose reading with every
annotation accepted is the accepted view of that document. -/
theorem doc_reads (d : Document) (h : domDoc d = true) : Reads (extractText false d) (extractText true d) :=
  (doc_reads3 d h).reads

end Adeu.Doc
