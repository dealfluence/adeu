import AdeuModel.Lemmas.Reach
import AdeuModel.Lemmas.Normalize
import AdeuModel.Model.History
namespace Adeu.Doc
open Adeu

/-- what survives from one saved document to the next over a whole history -/
structure DocGrows (d d' : Document) : Prop where
  skel : DocLe d d'
  comments : d.comments <+: d'.comments
  commentsEx : d.commentsEx <+: d'.commentsEx
  commentsIds : d.commentsIds <+: d'.commentsIds
  commentsCex : d.commentsCex <+: d'.commentsCex

theorem DocGrows.refl (d : Document) : DocGrows d d :=
  ⟨DocLe.refl d, List.prefix_refl _, List.prefix_refl _, List.prefix_refl _, List.prefix_refl _⟩

theorem DocGrows.trans {a b c : Document} (h1 : DocGrows a b) (h2 : DocGrows b c) : DocGrows a c :=
  ⟨h1.skel.trans h2.skel, h1.comments.trans h2.comments, h1.commentsEx.trans h2.commentsEx,
   h1.commentsIds.trans h2.commentsIds, h1.commentsCex.trans h2.commentsCex⟩

/-- a session keeps of the document it was opened on what `DocGrows` names: loading (normalisation, id scan) keeps every
skeleton and every comment entry, and so does every move of the engine -/
theorem DocGrows_of_reach {d : Document} {author date : Str} {s : Sess} (h : Reach (Sess.open d author date) s) :
    DocGrows d s.doc :=
  let g := h.revOk.grows
  have hd : DocLe d (Sess.open d author date).doc := DocLe_of_canon (canonDoc_normalize d) rfl rfl
  ⟨hd.trans g.skel, g.comments, g.commentsEx, g.commentsIds, g.commentsCex⟩

/-- the authors of the sessions of a history that can write comment entries (edit rounds and review rounds) -/
def sessionAuthors : List Step → List Str
  | [] => []
  | .edits a _ :: rest => a :: sessionAuthors rest
  | .actions a _ :: rest => a :: sessionAuthors rest
  | .acceptAll :: rest => sessionAuthors rest

/-- the authors of the edit rounds of a history -/
def roundAuthors : List Step → List Str
  | [] => []
  | .edits a _ :: rest => a :: roundAuthors rest
  | _ :: rest => roundAuthors rest

theorem applyAction_nextRev (s : Sess) (a : Action) : (s.applyAction a).1.nextRev = s.nextRev := by
  unfold Sess.applyAction
  simp only
  split <;> split <;> rfl

theorem applyActions_nextRev (s : Sess) (acts : List Action) : (s.applyActions acts).1.nextRev = s.nextRev := by
  refine List.foldlRecOn (motive := fun acc : Sess × Nat × Nat => acc.1.nextRev = s.nextRev) acts _ rfl fun acc ha a _ => ?_
  simp only
  split <;> exact (applyAction_nextRev _ _).trans ha

/-- Every round of a history is a session, opened on the document the last round left under the round's author, that makes
the engine's moves.  Only an edit round or a review round hands out comment ids, only an edit round revision ids: this is
the one place where the kinds of round are told apart. -/
theorem stepDoc_reach (d : Document) (st : Step) :
    ∃ a s, Reach (Sess.open d a sessionDate) s ∧ (stepDoc d st).1 = s.doc ∧
      (a ∈ sessionAuthors [st] ∨ s.nextCom = (Sess.open d a sessionDate).nextCom) ∧
      (a ∈ roundAuthors [st] ∨ s.nextRev = (Sess.open d a sessionDate).nextRev) := by
  cases st with
  | edits a es => exact ⟨a, _, Reach_applyEditsIndexed _ es, rfl, .inl (List.mem_singleton_self a), .inl (List.mem_singleton_self a)⟩
  | actions a acts =>
    exact ⟨a, _, Reach_applyActions _ acts, rfl, .inl (List.mem_singleton_self a), .inr (applyActions_nextRev _ acts)⟩
  | acceptAll => exact ⟨[], _, Reach_acceptAll _, rfl, .inr rfl, .inr rfl⟩

/-- a property of documents that every session keeps, from the document it opens to the one it leaves, holds over a history -/
theorem runHistory_reach {P : Document → Prop} (hP : ∀ d a s, Reach (Sess.open d a sessionDate) s → P d → P s.doc) :
    ∀ (steps : List Step) (d : Document), P d → P (runHistory d steps).1 := by
  intro steps
  induction steps with
  | nil => exact fun _ h => h
  | cons st rest ih =>
    intro d h
    obtain ⟨a, s, hs, e, _⟩ := stepDoc_reach d st
    exact ih _ (e ▸ hP d a s hs h)

/-- members of a list read off the document (`L`), over a history: each is one the original had or came in some
round, and `A` says per round under whose name -/
theorem runHistory_members {α} (L : Document → List α) (A : List Step → List Str) (Q : Str → α → Prop)
    (hA : ∀ st rest, A (st :: rest) = A [st] ++ A rest)
    (hstep : ∀ d st, ∀ x ∈ L (stepDoc d st).1, x ∈ L d ∨ ∃ a ∈ A [st], Q a x) :
    ∀ (steps : List Step) (d : Document), ∀ x ∈ L (runHistory d steps).1, x ∈ L d ∨ ∃ a ∈ A steps, Q a x := by
  intro steps
  induction steps with
  | nil => exact fun d x hx => Or.inl hx
  | cons st rest ih =>
    intro d x hx
    rcases ih (stepDoc d st).1 x hx with h | ⟨a, ha, hq⟩
    · exact (hstep d st x h).imp_right fun ⟨a, ha, hq⟩ => ⟨a, hA st rest ▸ List.mem_append_left _ ha, hq⟩
    · exact Or.inr ⟨a, hA st rest ▸ List.mem_append_right _ ha, hq⟩

/-- Over any history of sessions — edit batches by any authors, review actions, replies, accept-all, with a
save and reload between rounds — every story keeps its skeleton (paragraph properties, tables, rows, cells,
other blocks, in order; paragraphs are only added) and every comment entry present at some point is still
there, in place, at the end. -/
theorem DocGrows_runHistory (steps : List Step) : ∀ d : Document, DocGrows d (runHistory d steps).1 :=
  fun d => runHistory_reach (P := DocGrows d) (fun _ _ _ hs h => h.trans (DocGrows_of_reach hs)) steps d (.refl d)

end Adeu.Doc
