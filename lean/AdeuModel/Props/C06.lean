import AdeuModel.Lemmas.Review
import AdeuModel.Lemmas.Grow
import AdeuModel.Lemmas.MapNodes
import AdeuModel.Lemmas.QuietPara
/-
C06 — accept and reject act exactly on the addressed change.
`acceptN` / `rejectN` are what `_accept_change` / `_reject_change` do to one paragraph child; the
document-level functions map them over every paragraph of the main part (`mapNodesBlocks`).
-/
namespace Adeu.Props.C06
open Adeu Adeu.Doc

/-- An accepted insertion becomes ordinary content, an accepted deletion disappears. -/
theorem C06_accept_effect (rev : Rev) (ch : List InsChild) (runs : List Run) :
    acceptN rev.id (.ins rev ch) = ch.map InsChild.toNode ∧ acceptN rev.id (.del rev runs) = [] :=
  ⟨accept_inserted_node rev ch, acceptN_del rev runs⟩

/-- A rejected insertion disappears, a rejected deletion becomes ordinary runs again (same run
properties, `w:delText` back to `w:t`). -/
theorem C06_reject_effect (rev : Rev) (ch : List InsChild) (runs : List Run) :
    rejectN rev.id (.ins rev ch) = [] ∧ rejectN rev.id (.del rev runs) = runs.map (fun r => .run r.undelete) := by
  simp [rejectN]

/-- Every other change, comment anchor and run is untouched and stays in place. -/
theorem C06_isolation (acc : Bool) (id : Str) (n : Node) (h : hasRevN id n = false) : actN acc id n = [n] :=
  actN_other acc id n h

/-- Actions on distinct ids commute — all four accept/reject combinations, every paragraph. -/
theorem C06_commute (a b : Bool) (i j : Str) (hij : i ≠ j) (ns : List Node) :
    (ns.flatMap (actN a i)).flatMap (actN b j) = (ns.flatMap (actN b j)).flatMap (actN a i) :=
  actNodes_comm a b i j hij ns

/-- An action on an unknown id changes nothing (and is reported as skipped: `hasRev` is false). -/
theorem C06_unknown_skipped (acc : Bool) (id : Str) (ns : List Node) (h : ∀ n ∈ ns, hasRevN id n = false) :
    ns.flatMap (actN acc id) = ns :=
  actN_flatMap_unknown acc id ns h

/-- An id that was resolved is gone: a second action addressed to it changes nothing. -/
theorem C06_resolved_once (acc acc' : Bool) (id : Str) (ns : List Node) :
    (∀ m ∈ ns.flatMap (actN acc id), hasRevN id m = false) ∧
    (ns.flatMap (actN acc id)).flatMap (actN acc' id) = ns.flatMap (actN acc id) :=
  ⟨actNodes_clears acc id ns, actN_flatMap_unknown acc' id _ (actNodes_clears acc id ns)⟩

/-- applied + skipped equals the number of actions. -/
theorem C06_counts (s : Sess) (acts : List Action) :
    (s.applyActions acts).2.1 + (s.applyActions acts).2.2 = acts.length :=
  applyActions_total s acts

/-- Accepting any change leaves the accepted-view text as it is; so does accept-all, after which no
revision mark is left. Hence accepting every id, accept-all and the accepted view agree on text. -/
theorem C06_accept_each_eq_acceptAll (ns : List Node) (ids : List Str) :
    acceptedChars (ids.foldl (fun l id => l.flatMap (acceptN id)) ns) = acceptedChars ns ∧
    acceptedChars (ns.flatMap acceptAllN) = acceptedChars ns ∧
    (∀ m ∈ ns.flatMap acceptAllN, isRevN m = false) :=
  ⟨foldl_keeps acceptedChars (fun l id _ => acceptedChars_flatMap _ (acceptedChars_acceptN id) l) ns,
    acceptedChars_acceptAllN ns, acceptAllN_noRev ns⟩

/-- Actions on distinct ids commute on the whole story (all four accept / reject combinations). -/
theorem C06_commute_doc (a b : Bool) (i j : Str) (hij : i ≠ j) (body : List Block) :
    (actChange b j (actChange a i body).1).1 = (actChange a i (actChange b j body).1).1 := by
  simp only [actChange_fst, mapNodesBlocks_comp]
  exact mapNodesBlocks_congr _ _ (actNodes_comm a b i j hij) body

/-- An action on an id that no change of the story carries (unknown, or already resolved) is reported as
skipped and the story is exactly as before. -/
theorem C06_unknown_skipped_doc (acc : Bool) (id : Str) (body : List Block) (h : hasRev id body = false) :
    actChange acc id body = (body, false) := by
  have hn : ∀ n ∈ allNodesBlocks body, hasRevN id n = false := by simpa [hasRev] using h
  refine Prod.ext ?_ ((actChange_snd acc id body).trans h)
  rw [actChange_fst]
  exact mapNodesBlocks_id _ body fun ns hns => actN_flatMap_unknown acc id ns fun n hn' => hn n (hns n hn')

/-- An action only touches paragraph children: paragraph properties, tables, rows, cells and other blocks of
the story are untouched. -/
theorem C06_skeleton_untouched_doc (acc : Bool) (id : Str) (body : List Block) :
    skel (actChange acc id body).1 = skel body := by
  rw [actChange_fst]; exact skel_mapNodesBlocks _ body

def sampleNodes : List Node :=
  [.run { b := none, i := none, rest := [], ch := [.t "a ".toList] },
   .del ⟨"1".toList, none, none⟩ [{ b := none, i := none, rest := [], ch := [.dt "old".toList] }],
   .ins ⟨"2".toList, none, none⟩ [.run { b := none, i := none, rest := [], ch := [.t "new".toList] }]]

example : (sampleNodes.flatMap (acceptN "1".toList)).length = 2 := by decide +kernel
example : acceptedChars (sampleNodes.flatMap (rejectN "2".toList)) = "a ".toList := by decide +kernel

/-- 'Accept all' gives the accepted view and leaves nothing behind to show: a paragraph as `accept_all_revisions`
leaves it (insertions unwrapped, deletions dropped, comment ranges and references stripped) reads the same in the raw and
in the accepted view - no wrapper, no metadata block - whatever the paragraph held before. -/
theorem C06_accept_all_raw_view_is_accepted_view (cm : CMap) (p : Para) :
    paraText false cm { p with nodes := (p.nodes.flatMap acceptAllN).flatMap stripCommentN } =
      paraText true cm { p with nodes := (p.nodes.flatMap acceptAllN).flatMap stripCommentN } :=
  paraText_quiet cm _ (itemsFrom_quiet _ _ _ (acceptAll_nodes_quiet p.nodes))

/-- The same for the whole main story (paragraphs, nested tables) of the session after `accept_all_revisions`. -/
theorem C06_accept_all_story_reads_the_same (cm : CMap) (s : Sess) :
    containerText false cm s.acceptAllRevisions.doc.body = containerText true cm s.acceptAllRevisions.doc.body :=
  congrArg (joinWith ['\n', '\n'])
    (blocks_quiet cm _ (allNodes_mapNodes _ (fun ns => acceptAll_nodes_quiet ns) s.doc.body))

/-- … and so does any paragraph in which every change has been resolved one by one (its content opens no insertion,
deletion or comment range any more). -/
theorem C06_resolved_paragraph_reads_the_same (cm : CMap) (p : Para) (h : ∀ n ∈ p.nodes, quietNode n = true) :
    paraText false cm p = paraText true cm p :=
  paraText_quiet cm p (itemsFrom_quiet _ _ _ h)

example : paraText false [] { style := none, ppr := [], nodes := ([.run { b := none, i := none, rest := [], ch := [.t "keep ".toList] },
      .del ⟨"1".toList, some "A".toList, none⟩ [{ b := none, i := none, rest := [], ch := [.dt "old ".toList] }],
      .ins ⟨"2".toList, some "A".toList, none⟩ [.run { b := none, i := none, rest := [], ch := [.t "new".toList] }]].flatMap acceptAllN).flatMap stripCommentN } =
    "keep new".toList := by decide +kernel

end Adeu.Props.C06
