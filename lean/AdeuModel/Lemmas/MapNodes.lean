import AdeuModel.Model.Review
import AdeuModel.Lemmas.Blocks
namespace Adeu.Doc
open Adeu

theorem mapNodes_comp (f g : List Node → List Node) :
    (∀ bs, mapNodesBlocks f (mapNodesBlocks g bs) = mapNodesBlocks (fun ns => f (g ns)) bs) ∧
    (∀ rs, mapNodesRows f (mapNodesRows g rs) = mapNodesRows (fun ns => f (g ns)) rs) ∧
    (∀ cs, mapNodesCells f (mapNodesCells g cs) = mapNodesCells (fun ns => f (g ns)) cs) := by
  -- every case: one step of the three maps, then the induction hypotheses
  apply blocks_induction <;> intros <;> simp only [mapNodesBlocks, mapNodesRows, mapNodesCells, *]

theorem mapNodesBlocks_comp (f g : List Node → List Node) : ∀ bs : List Block,
    mapNodesBlocks f (mapNodesBlocks g bs) = mapNodesBlocks (fun ns => f (g ns)) bs :=
  (mapNodes_comp f g).1
theorem mapNodesRows_comp (f g : List Node → List Node) : ∀ rs : List Row,
    mapNodesRows f (mapNodesRows g rs) = mapNodesRows (fun ns => f (g ns)) rs :=
  (mapNodes_comp f g).2.1
theorem mapNodesCells_comp (f g : List Node → List Node) : ∀ cs : List Cell,
    mapNodesCells f (mapNodesCells g cs) = mapNodesCells (fun ns => f (g ns)) cs :=
  (mapNodes_comp f g).2.2

theorem mapNodesBlocks_congr (f g : List Node → List Node) (h : ∀ ns, f ns = g ns) : ∀ bs : List Block,
    mapNodesBlocks f bs = mapNodesBlocks g bs :=
  fun _ => by rw [funext h]
theorem mapNodesRows_congr (f g : List Node → List Node) (h : ∀ ns, f ns = g ns) : ∀ rs : List Row,
    mapNodesRows f rs = mapNodesRows g rs :=
  fun _ => by rw [funext h]
theorem mapNodesCells_congr (f g : List Node → List Node) (h : ∀ ns, f ns = g ns) : ∀ cs : List Cell,
    mapNodesCells f cs = mapNodesCells g cs :=
  fun _ => by rw [funext h]

/-- `blocks_induction` under a hypothesis `H` on the children of all paragraphs that passes to parts: each case gets `H` of
the paragraph at hand, and of the parts their statements outright -/
theorem blocks_induction_nodes {H : List Node → Prop} (hH : ∀ {a b}, H (a ++ b) → H a ∧ H b)
    {P : List Block → Prop} {Q : List Row → Prop} {R : List Cell → Prop}
    (nil : P []) (para : ∀ p bs, H p.nodes → P bs → P (.para p :: bs))
    (table : ∀ pr g rs bs, Q rs → P bs → P (.table pr g rs :: bs))
    (other : ∀ x bs, P bs → P (.other x :: bs))
    (rnil : Q []) (row : ∀ pr cs rs, R cs → Q rs → Q (.mk pr cs :: rs))
    (cnil : R []) (cell : ∀ pr s v bs cs, P bs → R cs → R (.mk pr s v bs :: cs)) :
    (∀ bs, H (allNodesBlocks bs) → P bs) ∧ (∀ rs, H (allNodesRows rs) → Q rs) ∧ (∀ cs, H (allNodesCells cs) → R cs) := by
  apply blocks_induction
  · exact fun _ => nil
  · intro p bs ih h; rw [allNodesBlocks] at h; exact para p bs (hH h).1 (ih (hH h).2)
  · intro pr g rs bs ihr ih h; rw [allNodesBlocks] at h; exact table pr g rs bs (ihr (hH h).1) (ih (hH h).2)
  · intro x bs ih h; rw [allNodesBlocks] at h; exact other x bs (ih h)
  · exact fun _ => rnil
  · intro pr cs rs ihc ih h; rw [allNodesRows] at h; exact row pr cs rs (ihc (hH h).1) (ih (hH h).2)
  · exact fun _ => cnil
  · intro pr s v bs cs ihb ih h; rw [allNodesCells] at h; exact cell pr s v bs cs (ihb (hH h).1) (ih (hH h).2)

theorem mapNodes_id (f : List Node → List Node) :
    (∀ bs, (∀ ns, (∀ n ∈ ns, n ∈ allNodesBlocks bs) → f ns = ns) → mapNodesBlocks f bs = bs) ∧
    (∀ rs, (∀ ns, (∀ n ∈ ns, n ∈ allNodesRows rs) → f ns = ns) → mapNodesRows f rs = rs) ∧
    (∀ cs, (∀ ns, (∀ n ∈ ns, n ∈ allNodesCells cs) → f ns = ns) → mapNodesCells f cs = cs) := by
  apply blocks_induction_nodes (H := fun S => ∀ ns, (∀ n ∈ ns, n ∈ S) → f ns = ns)
    fun h => ⟨fun ns hns => h ns fun n hn => List.mem_append_left _ (hns n hn),
      fun ns hns => h ns fun n hn => List.mem_append_right _ (hns n hn)⟩
  case para => intro p bs hp ih; rw [mapNodesBlocks, hp p.nodes fun _ h => h, ih]
  -- every other case: one step of the map, then the induction hypotheses
  all_goals intros; simp only [mapNodesBlocks, mapNodesRows, mapNodesCells, *]

theorem mapNodesBlocks_id (f : List Node → List Node) : ∀ bs : List Block,
    (∀ ns, (∀ n ∈ ns, n ∈ allNodesBlocks bs) → f ns = ns) → mapNodesBlocks f bs = bs :=
  (mapNodes_id f).1
theorem mapNodesRows_id (f : List Node → List Node) : ∀ rs : List Row,
    (∀ ns, (∀ n ∈ ns, n ∈ allNodesRows rs) → f ns = ns) → mapNodesRows f rs = rs :=
  (mapNodes_id f).2.1
theorem mapNodesCells_id (f : List Node → List Node) : ∀ cs : List Cell,
    (∀ ns, (∀ n ∈ ns, n ∈ allNodesCells cs) → f ns = ns) → mapNodesCells f cs = cs :=
  (mapNodes_id f).2.2

theorem mapNodes_nodes (f : List Node → List Node) {P : Node → Prop} (hf : ∀ ns, ∀ n ∈ f ns, P n) :
    (∀ bs, ∀ n ∈ allNodesBlocks (mapNodesBlocks f bs), P n) ∧
    (∀ rows, ∀ n ∈ allNodesRows (mapNodesRows f rows), P n) ∧
    (∀ cells, ∀ n ∈ allNodesCells (mapNodesCells f cells), P n) := by
  apply blocks_induction
  · intro n hn; simp [mapNodesBlocks, allNodesBlocks] at hn
  · intro p rest ih n hn
    simp only [mapNodesBlocks, allNodesBlocks, List.mem_append] at hn
    exact hn.elim (hf p.nodes n) (ih n)
  · intro pr g rows rest ihr ih n hn
    simp only [mapNodesBlocks, allNodesBlocks, List.mem_append] at hn
    exact hn.elim (ihr n) (ih n)
  · intro x rest ih n hn
    simp only [mapNodesBlocks, allNodesBlocks] at hn
    exact ih n hn
  · intro n hn; simp [mapNodesRows, allNodesRows] at hn
  · intro pr cells rest ihc ih n hn
    simp only [mapNodesRows, allNodesRows, List.mem_append] at hn
    exact hn.elim (ihc n) (ih n)
  · intro n hn; simp [mapNodesCells, allNodesCells] at hn
  · intro pr s v blocks rest ihb ih n hn
    simp only [mapNodesCells, allNodesCells, List.mem_append] at hn
    exact hn.elim (ihb n) (ih n)

end Adeu.Doc
