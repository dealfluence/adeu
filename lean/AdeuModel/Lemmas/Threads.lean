import AdeuModel.Model.Extract
/-
Layer D — the thread renderer `renderComment`.  Lookups in the comment map (`cmGet`); one induction for everything the
renderer keeps (`renderFold_rel`, for a single run `renderFold_inv`); by it signatures are never lost and every signature
written has its line (`LinesOk`).  Hence replies are rendered with the thread they answer: when the renderer writes a
comment that is not yet in the block, every comment whose parent it is gets its line in the same block (directly or
because it was there already).
-/
namespace Adeu.Doc
open Adeu

theorem mem_insertBy {α} (key : α → Str) (x : α) : ∀ l : List α, ∀ y, y ∈ insertBy key x l ↔ y = x ∨ y ∈ l
  | [], y => by simp [insertBy]
  | z :: r, y => by
    simp only [insertBy]
    split
    · simp only [List.mem_cons, mem_insertBy key x r y]
      exact or_left_comm
    · simp [List.mem_cons]

theorem mem_sortBy {α} (key : α → Str) (l : List α) (y : α) : y ∈ sortBy key l ↔ y ∈ l := by
  unfold sortBy
  suffices h : ∀ (l acc : List α), y ∈ l.foldl (fun acc x => insertBy key x acc) acc ↔ y ∈ acc ∨ y ∈ l by
    simpa using h l []
  intro l
  induction l with
  | nil => intro acc; simp
  | cons x r ih =>
    intro acc
    simp only [List.foldl_cons, ih, mem_insertBy, List.mem_cons]
    rw [or_comm (a := y = x), or_assoc]

theorem cmGet_mem {cm : CMap} {k : Str} {d : CData} (h : cmGet cm k = some d) : (k, d) ∈ cm := by
  obtain ⟨p, hf, rfl⟩ := Option.map_eq_some_iff.1 h
  have hk : p.1 = k := by simpa using List.find?_some hf
  subst hk
  exact List.mem_of_find?_eq_some hf

theorem cmGet_cons (k' : Str) (v' : CData) (r : CMap) (k2 : Str) :
    cmGet ((k', v') :: r) k2 = if k' = k2 then some v' else cmGet r k2 := by
  unfold cmGet
  rw [List.find?_cons]
  by_cases h : k' = k2 <;> simp [h]

theorem cmGet_cmSet (k k2 : Str) (v : CData) :
    ∀ m : CMap, cmGet (cmSet k v m) k2 = if k2 = k then some v else cmGet m k2
  | [] => by rw [cmSet, cmGet_cons]; simp only [eq_comm]
  | (k', v') :: r => by
    rw [cmSet]
    split
    · -- the entry under `k` is replaced where it stands
      rename_i h
      rw [cmGet_cons, cmGet_cons, h]
      by_cases h2 : k = k2 <;> simp [h2, eq_comm]
    · -- an entry under another key is passed by: it answers for its own key as before
      rename_i h
      rw [cmGet_cons, cmGet_cons, cmGet_cmSet k k2 v r]
      by_cases h2 : k' = k2
      · rw [if_pos h2, if_pos h2, if_neg (fun e => h (h2.trans e))]
      · rw [if_neg h2, if_neg h2]

theorem child_mem (cm : CMap) (c r : Str) (dr : CData) (hr : cmGet cm r = some dr) (hp : dr.parent = some c) :
    r ∈ childrenOf cm c := by
  unfold childrenOf
  rw [mem_sortBy]
  simp only [List.mem_map, List.mem_filter]
  exact ⟨(r, dr), ⟨cmGet_mem hr, by simp [hp]⟩, rfl⟩

def comHead (id : Str) : Str := ['['] ++ ("Com:".toList ++ id) ++ [']', ' ']

/-- One induction for everything the thread renderer keeps.  It reads `seen` only to ask for comment signatures, so two
runs from states that answer alike stay in step: a relation between two states (lines, signatures) under which they
answer alike, and which survives writing the same comment line `[Com:id] …` with its signature on both sides,
survives `renderComment`, folded over any list of roots (the fold over the children is the induction hypothesis at
the smaller fuel). -/
theorem renderFold_rel (cm : CMap) (R : List Str × List Str → List Str × List Str → Prop)
    (hsee : ∀ a b cid, R a b → a.2.contains ("Com:".toList ++ cid) = b.2.contains ("Com:".toList ++ cid))
    (hstep : ∀ l s l' s' cid line, comHead cid <+: line → R (l, s) (l', s') →
      R (l ++ [line], s ++ ["Com:".toList ++ cid]) (l' ++ [line], s' ++ ["Com:".toList ++ cid])) :
    ∀ (fuel : Nat) (roots : List Str) (a b : List Str × List Str), R a b →
      R (roots.foldl (fun acc c => renderComment cm fuel c acc) a)
        (roots.foldl (fun acc c => renderComment cm fuel c acc) b) := by
  intro fuel
  induction fuel with
  | zero => exact fun roots _ _ h => List.foldl_rel h fun _ _ _ _ h => h
  | succ n ih =>
    intro roots _ _ h
    refine List.foldl_rel h fun r _ a b h => ?_
    obtain ⟨l, s⟩ := a
    obtain ⟨l', s'⟩ := b
    -- by `hsee` both sides find `r` written already, or both do not
    simp only [renderComment, hsee _ _ r h]
    split
    · exact h
    · split
      · exact h
      · -- the same line on both sides, then the replies at the smaller fuel
        rename_i data _ _
        exact ih _ _ _ (hstep _ _ _ _ r _ ⟨data.author ++ (if data.date.isEmpty then [] else " @ ".toList ++ dateDay data.date) ++
          [':', ' '] ++ data.text, by simp only [comHead, List.append_assoc]⟩ h)

/-- one run beside itself: a property of (lines, signatures) that survives writing a comment line survives the renderer -/
theorem renderFold_inv (cm : CMap) (P : List Str × List Str → Prop)
    (hstep : ∀ lines seen cid line, comHead cid <+: line → P (lines, seen) →
      P (lines ++ [line], seen ++ ["Com:".toList ++ cid]))
    (fuel : Nat) (roots : List Str) (acc : List Str × List Str) (h : P acc) :
    P (roots.foldl (fun acc c => renderComment cm fuel c acc) acc) :=
  (renderFold_rel cm (fun a b => a = b ∧ P a) (fun _ _ _ h => h.1 ▸ rfl)
    (fun _ _ _ _ c _ hl h => by cases h.1; exact ⟨rfl, hstep _ _ c _ hl h.2⟩) fuel roots acc acc ⟨rfl, h⟩).2

theorem fold_seen_mono (cm : CMap) (fuel : Nat) (kids : List Str) (acc : List Str × List Str) (x : Str)
    (h : x ∈ acc.2) : x ∈ (kids.foldl (fun acc ch => renderComment cm fuel ch acc) acc).2 :=
  renderFold_inv cm (fun a => x ∈ a.2) (fun _ _ _ _ _ h => List.mem_append_left _ h) fuel kids acc h

theorem renderComment_self_seen (cm : CMap) (n : Nat) (cid : Str) (d : CData) (h : cmGet cm cid = some d)
    (acc : List Str × List Str) : ("Com:".toList ++ cid) ∈ (renderComment cm (n + 1) cid acc).2 := by
  obtain ⟨lines, seen⟩ := acc
  simp only [renderComment, h]
  split
  · rename_i hs; simpa using hs
  · exact fold_seen_mono cm n _ _ _ (by simp)

theorem roots_seen (cm : CMap) (n : Nat) (roots : List Str) (cid : Str) (d : CData) (hd : cmGet cm cid = some d)
    (hm : cid ∈ roots) (acc : List Str × List Str) :
    ("Com:".toList ++ cid) ∈ (roots.foldl (fun acc root => renderComment cm (n + 1) root acc) acc).2 := by
  -- written when its turn comes, kept by the roots behind it
  obtain ⟨front, back, rfl⟩ := List.append_of_mem hm
  rw [List.foldl_append, List.foldl_cons]
  exact fold_seen_mono cm (n + 1) back _ _ (renderComment_self_seen cm n cid d hd _)

/-- **Replies are shown with their thread.**  When the renderer writes comment `c` (known to the map, not yet in the
block) every comment `r` whose parent is `c` is in the block afterwards. -/
theorem reply_rendered_with_parent (cm : CMap) (n : Nat) (c r : Str) (dc dr : CData)
    (hc : cmGet cm c = some dc) (hr : cmGet cm r = some dr) (hp : dr.parent = some c)
    (lines seen : List Str) (hns : seen.contains ("Com:".toList ++ c) = false) :
    ("Com:".toList ++ r) ∈ (renderComment cm (n + 2) c (lines, seen)).2 := by
  simp only [renderComment, hc, hns, Bool.false_eq_true, ↓reduceIte]
  exact roots_seen cm n _ r dr hr (child_mem cm c r dr hr hp) _

/-- every comment signature in `seen` has its line in `lines` -/
def LinesOk (acc : List Str × List Str) : Prop :=
  ∀ id, ("Com:".toList ++ id) ∈ acc.2 → ∃ l ∈ acc.1, comHead id <+: l

theorem LinesOk.step {lines seen : List Str} (h : LinesOk (lines, seen)) {cid line : Str} (hl : comHead cid <+: line) :
    LinesOk (lines ++ [line], seen ++ ["Com:".toList ++ cid]) := by
  intro id hid
  rcases List.mem_append.1 hid with h1 | h1
  · obtain ⟨l, hl, hp⟩ := h id h1
    exact ⟨l, List.mem_append_left _ hl, hp⟩
  · cases List.append_cancel_left (List.mem_singleton.1 h1)
    exact ⟨line, List.mem_append_right _ (List.mem_singleton_self line), hl⟩

theorem rendered_linesOk (cm : CMap) (fuel : Nat) (roots : List Str) (acc : List Str × List Str) (h : LinesOk acc) :
    LinesOk (roots.foldl (fun acc root => renderComment cm fuel root acc) acc) :=
  renderFold_inv cm LinesOk (fun _ _ _ _ hl h => h.step hl) fuel roots acc h

end Adeu.Doc
