import AdeuModel.Lemmas.Frame
/-
What a session keeps of the document it started from: the skeleton of every story (`skel`, `SkelLe`, `DocLe`), the existing
comment entries and its own identity (`Grows`).  `Still` is a step that leaves the comment store alone as well: every move
of the engine but `addComment` (Lemmas/Reach).
-/
namespace Adeu.Doc
open Adeu

def isStruct : DItem → Bool
  | .c _ => false
  | _ => true

/-- the skeleton of a story: its canonical content stream without the paragraph children -/
def skel (bs : List Block) : List DItem := (streamBlocks bs).filter isStruct
def skelRows (rs : List Row) : List DItem := (streamRows rs).filter isStruct
def skelCells (cs : List Cell) : List DItem := (streamCells cs).filter isStruct

theorem filter_map_c (l : List CItem) : (l.map DItem.c).filter isStruct = [] := by
  induction l with
  | nil => rfl
  | cons a r ih => simp [isStruct, ih]

theorem skel_cons (b : Block) (bs : List Block) : skel (b :: bs) = skel [b] ++ skel bs := by
  unfold skel; rw [streamBlocks_cons, List.filter_append]

theorem skel_para (p : Para) : skel [.para p] = [.paraOpen p.style p.ppr, .paraClose] := by
  simp [skel, streamBlocks, List.filter_append, filter_map_c, List.filter, isStruct]

/-- a paragraph update that keeps the paragraph's own properties (it may change children and add paragraphs behind) -/
def ParaKeep (f : Para → Para × List Block) : Prop := ∀ p, (f p).1.style = p.style ∧ (f p).1.ppr = p.ppr

theorem StreamRel.skelEq : StreamRel fun a b => a.filter isStruct = b.filter isStruct :=
  .comap _ List.filter_append .eq

theorem StreamRel.skelLe : StreamRel fun a b => (a.filter isStruct).Sublist (b.filter isStruct) :=
  .comap _ List.filter_append ⟨List.Sublist.refl, List.Sublist.append⟩

theorem ParaKeep.skel {f : Para → Para × List Block} (hf : ParaKeep f) (p : Para) :
    (skel [.para p]).Sublist (skel (.para (f p).1 :: (f p).2)) := by
  rw [skel_cons (.para (f p).1), skel_para, skel_para, (hf p).1, (hf p).2]
  exact List.sublist_append_left _ _

theorem skel_modBlocks (f : Para → Para × List Block) (hf : ParaKeep f) :
    ∀ (path : List Nat) (bs : List Block), (skel bs).Sublist (skel (modBlocks f path bs)) :=
  (StreamRel.skelLe.mod f hf.skel).1

theorem skelRows_modRows (f : Para → Para × List Block) (hf : ParaKeep f) :
    ∀ (ri ci : Nat) (more : List Nat) (rows : List Row), (skelRows rows).Sublist (skelRows (modRows f ri ci more rows)) :=
  (StreamRel.skelLe.mod f hf.skel).2.1

theorem skelCells_modCells (f : Para → Para × List Block) (hf : ParaKeep f) :
    ∀ (ci : Nat) (more : List Nat) (cells : List Cell), (skelCells cells).Sublist (skelCells (modCells f ci more cells)) :=
  (StreamRel.skelLe.mod f hf.skel).2.2

theorem skel_setNodes (p : Para) (ns : List Node) : skel [.para p] = skel [.para { p with nodes := ns }] := by
  rw [skel_para, skel_para]

theorem skel_mapNodesBlocks (g : List Node → List Node) : ∀ bs : List Block, skel (mapNodesBlocks g bs) = skel bs :=
  fun bs => ((StreamRel.skelEq.mapNodes g fun p => skel_setNodes p _).1 bs).symm

theorem skelRows_mapNodesRows (g : List Node → List Node) : ∀ rs : List Row, skelRows (mapNodesRows g rs) = skelRows rs :=
  fun rs => ((StreamRel.skelEq.mapNodes g fun p => skel_setNodes p _).2.1 rs).symm

theorem skelCells_mapNodesCells (g : List Node → List Node) : ∀ cs : List Cell, skelCells (mapNodesCells g cs) = skelCells cs :=
  fun cs => ((StreamRel.skelEq.mapNodes g fun p => skel_setNodes p _).2.2 cs).symm

theorem firstParaBlocks_skel (f : List Node → Option (List Node)) : ∀ (bs bs' : List Block),
    firstParaBlocks f bs = some bs' → skel bs' = skel bs :=
  fun bs bs' h => ((StreamRel.skelEq.firstPara f fun p ns _ => skel_setNodes p ns).1 bs bs' h).symm

theorem firstParaRows_skel (f : List Node → Option (List Node)) : ∀ (rs rs' : List Row),
    firstParaRows f rs = some rs' → skelRows rs' = skelRows rs :=
  fun rs rs' h => ((StreamRel.skelEq.firstPara f fun p ns _ => skel_setNodes p ns).2.1 rs rs' h).symm

theorem firstParaCells_skel (f : List Node → Option (List Node)) : ∀ (cs cs' : List Cell),
    firstParaCells f cs = some cs' → skelCells cs' = skelCells cs :=
  fun cs cs' h => ((StreamRel.skelEq.firstPara f fun p ns _ => skel_setNodes p ns).2.2 cs cs' h).symm

/-- `_anchor_reply_comment` is at most three steps; each puts range markers or a reference run - children that are no
marks - behind a child of the first paragraph that has one, or changes nothing -/
theorem anchorReply_induction {P : List Block → Prop} {body : List Block} (h0 : P body)
    (step : ∀ pTop pIns (newTop : List Node) newIns bs bs', noMarks newTop = true →
      firstParaBlocks (insertAfterFirst pTop pIns newTop newIns) bs = some bs' → P bs → P bs') (parent new : Str) :
    P (anchorReply body parent new) := by
  have put : ∀ pTop pIns (newTop : List Node) newIns bs, noMarks newTop = true → P bs →
      P ((firstParaBlocks (insertAfterFirst pTop pIns newTop newIns) bs).getD bs) := by
    intro pTop pIns newTop newIns bs hn h
    cases hr : firstParaBlocks (insertAfterFirst pTop pIns newTop newIns) bs with
    | none => exact h
    | some r => exact step _ _ _ _ _ r hn hr h
  unfold anchorReply
  simp only
  split
  · exact h0
  · rename_i b1 h1
    have e1 : P b1 := step _ _ [.cs new] _ _ b1 rfl h1 h0
    split
    · exact e1
    · split <;> exact put _ _ [.run (crefRun new)] _ _ rfl (put _ _ [.ce new] _ _ rfl e1)

theorem anchorReply_skel (body : List Block) (parent new : Str) : skel (anchorReply body parent new) = skel body :=
  anchorReply_induction (P := fun bs => skel bs = skel body) rfl
    (fun _ _ _ _ bs bs' _ hr h => (firstParaBlocks_skel _ bs bs' hr).trans h) parent new

/-- story by story, same type and the skeleton kept (`Sublist`: blocks may be added, none goes or changes) -/
inductive SkelLe : List Story → List Story → Prop
  | nil : SkelLe [] []
  | cons {x y : Story} {a b : List Story} (hty : x.ty = y.ty) (hsub : (skel x.blocks).Sublist (skel y.blocks))
      (rest : SkelLe a b) : SkelLe (x :: a) (y :: b)

theorem SkelLe.refl (a : List Story) : SkelLe a a := by
  induction a with
  | nil => exact SkelLe.nil
  | cons x r ih => exact SkelLe.cons rfl (List.Sublist.refl _) ih

theorem SkelLe.trans {a b c : List Story} (h1 : SkelLe a b) (h2 : SkelLe b c) : SkelLe a c := by
  induction h1 generalizing c with
  | nil => cases h2; exact SkelLe.nil
  | cons hty hsub _ ih =>
    cases h2 with
    | cons hty2 hsub2 hr => exact SkelLe.cons (hty.trans hty2) (hsub.trans hsub2) (ih hr)

/-- every story of `d` keeps its skeleton in `d'`, and the flags that select the active stories are the same -/
structure DocLe (d d' : Document) : Prop where
  headers : SkelLe d.headers d'.headers
  body : (skel d.body).Sublist (skel d'.body)
  footers : SkelLe d.footers d'.footers
  titlePg : d'.titlePg = d.titlePg
  evenOdd : d'.evenOdd = d.evenOdd

theorem DocLe.refl (d : Document) : DocLe d d := ⟨SkelLe.refl _, List.Sublist.refl _, SkelLe.refl _, rfl, rfl⟩

theorem DocLe.trans {a b c : Document} (h1 : DocLe a b) (h2 : DocLe b c) : DocLe a c :=
  ⟨h1.headers.trans h2.headers, h1.body.trans h2.body, h1.footers.trans h2.footers,
   h2.titlePg.trans h1.titlePg, h2.evenOdd.trans h1.evenOdd⟩

theorem modFirstStory_le (ty : Str) (g : List Block → List Block) (hg : ∀ bs, (skel bs).Sublist (skel (g bs))) :
    ∀ ss : List Story, SkelLe ss (modFirstStory ty g ss) := by
  intro ss
  induction ss with
  | nil => exact SkelLe.nil
  | cons s rest ih =>
    simp only [modFirstStory]
    split
    · exact SkelLe.cons rfl (hg _) (SkelLe.refl _)
    · exact SkelLe.cons rfl (List.Sublist.refl _) ih

theorem DocLe_modPart (d : Document) (pi : Nat) (g : List Block → List Block) (hg : ∀ bs, (skel bs).Sublist (skel (g bs))) :
    DocLe d (modPart d pi g) := by
  unfold modPart
  split
  · exact ⟨SkelLe.refl _, hg _, SkelLe.refl _, rfl, rfl⟩
  · exact ⟨modFirstStory_le _ g hg _, List.Sublist.refl _, SkelLe.refl _, rfl, rfl⟩
  · exact ⟨SkelLe.refl _, List.Sublist.refl _, modFirstStory_le _ g hg _, rfl, rfl⟩
  · exact DocLe.refl d

/-- what every step of the engine preserves: skeletons (`DocLe`), the existing entries of the four comment lists,
the session's author and date; the counters only move forward -/
structure Grows (s s' : Sess) : Prop where
  skel : DocLe s.doc s'.doc
  comments : s.doc.comments <+: s'.doc.comments
  commentsEx : s.doc.commentsEx <+: s'.doc.commentsEx
  commentsIds : s.doc.commentsIds <+: s'.doc.commentsIds
  commentsCex : s.doc.commentsCex <+: s'.doc.commentsCex
  author : s'.author = s.author
  date : s'.date = s.date
  nextRev : s.nextRev ≤ s'.nextRev
  nextCom : s.nextCom ≤ s'.nextCom

theorem Grows.refl (s : Sess) : Grows s s :=
  ⟨DocLe.refl _, List.prefix_refl _, List.prefix_refl _, List.prefix_refl _, List.prefix_refl _, rfl, rfl,
   Nat.le_refl _, Nat.le_refl _⟩

theorem Grows.trans {a b c : Sess} (h1 : Grows a b) (h2 : Grows b c) : Grows a c :=
  ⟨h1.skel.trans h2.skel, h1.comments.trans h2.comments, h1.commentsEx.trans h2.commentsEx,
   h1.commentsIds.trans h2.commentsIds, h1.commentsCex.trans h2.commentsCex, h2.author.trans h1.author,
   h2.date.trans h1.date, Nat.le_trans h1.nextRev h2.nextRev, Nat.le_trans h1.nextCom h2.nextCom⟩

/-- a step that leaves the comment store and the session's identity alone: it may rewrite stories, keeping every skeleton,
and hand out revision ids.  Every move of the engine but `add_comment` is one. -/
structure Still (s s' : Sess) : Prop where
  skel : DocLe s.doc s'.doc
  comments : s'.doc.comments = s.doc.comments
  commentsEx : s'.doc.commentsEx = s.doc.commentsEx
  commentsIds : s'.doc.commentsIds = s.doc.commentsIds
  commentsCex : s'.doc.commentsCex = s.doc.commentsCex
  author : s'.author = s.author
  date : s'.date = s.date
  nextRev : s.nextRev ≤ s'.nextRev
  nextCom : s'.nextCom = s.nextCom

theorem Still.grows {s s' : Sess} (h : Still s s') : Grows s s' :=
  ⟨h.skel, h.comments ▸ List.prefix_refl _, h.commentsEx ▸ List.prefix_refl _, h.commentsIds ▸ List.prefix_refl _,
   h.commentsCex ▸ List.prefix_refl _, h.author, h.date, h.nextRev, Nat.le_of_eq h.nextCom.symm⟩

theorem DocLe_modPara (d : Document) (pp : PPath) (f : Para → Para × List Block) (hf : ParaKeep f) :
    DocLe d (modPara d pp f) := by
  cases pp with
  | nil => exact DocLe.refl d
  | cons pi rest => exact DocLe_modPart d pi (modBlocks f rest) (skel_modBlocks f hf rest)

theorem Still.of_stories {s : Sess} {d : Document} (hd : DocLe s.doc d) (hm : StoriesOnly s.doc d) :
    Still s { s with doc := d } :=
  ⟨hd, hm.comments, hm.commentsEx, hm.commentsIds, hm.commentsCex, rfl, rfl, Nat.le_refl _, rfl⟩

theorem Still_modPara (s : Sess) (pp : PPath) (f : Para → Para × List Block) (hf : ParaKeep f) :
    Still s { s with doc := modPara s.doc pp f } :=
  .of_stories (DocLe_modPara s.doc pp f hf) (StoriesOnly_modPara s.doc pp f)

theorem Still_mapPart (s : Sess) (pi : Nat) (g : List Node → List Node) :
    Still s { s with doc := modPart s.doc pi (mapNodesBlocks g) } :=
  .of_stories (DocLe_modPart s.doc pi _ fun bs => skel_mapNodesBlocks g bs ▸ List.Sublist.refl _) (StoriesOnly_modPart s.doc pi _)

theorem Still_setBody (s : Sess) (b : List Block) (h : skel b = skel s.doc.body) :
    Still s { s with doc := { s.doc with body := b } } :=
  .of_stories ⟨SkelLe.refl _, h ▸ List.Sublist.refl _, SkelLe.refl _, rfl, rfl⟩ ⟨rfl, rfl, rfl, rfl, rfl, rfl, rfl⟩

theorem Still_newRev (s : Sess) : Still s s.newRev.1 :=
  ⟨DocLe.refl _, rfl, rfl, rfl, rfl, rfl, rfl, Nat.le_succ _, rfl⟩

theorem SkelLe_of_map_eq : ∀ (a b : List Story),
    a.map (fun s => (s.ty, streamBlocks s.blocks)) = b.map (fun s => (s.ty, streamBlocks s.blocks)) → SkelLe a b := by
  intro a
  induction a with
  | nil => intro b h; cases b with
    | nil => exact SkelLe.nil
    | cons y r => simp at h
  | cons x r ih =>
    intro b h
    cases b with
    | nil => simp at h
    | cons y r' =>
      simp only [List.map_cons, List.cons.injEq, Prod.mk.injEq] at h
      exact SkelLe.cons h.1.1 (by rw [skel, h.1.2]; exact List.Sublist.refl _) (ih r' h.2)

/-- the skeleton is read off the canonical content -/
theorem DocLe_of_canon {d d' : Document} (h : canonDoc d' = canonDoc d) (ht : d'.titlePg = d.titlePg)
    (he : d'.evenOdd = d.evenOdd) : DocLe d d' := by
  simp only [canonDoc, CanonDoc.mk.injEq] at h
  exact ⟨SkelLe_of_map_eq _ _ h.1.symm, by rw [skel, skel, h.2.1]; exact List.Sublist.refl _,
    SkelLe_of_map_eq _ _ h.2.2.symm, ht, he⟩

theorem Still_of_frame {s s' : Sess} (h : s'.frame = s.frame) : Still s s' := by
  simp only [Sess.frame, Prod.mk.injEq] at h
  obtain ⟨hc, h1, h2, h3, h4, _, h6, h7, h8, h9, h10, h11, _⟩ := h
  exact ⟨DocLe_of_canon hc h6 h7, h1, h2, h3, h4, h8, h9, Nat.le_of_eq h10.symm, h11⟩

theorem Grows_addComment (s : Sess) (text : Str) (parent : Option Str) : Grows s (s.addComment text parent).1 := by
  simp only [Sess.addComment]
  exact ⟨⟨SkelLe.refl _, List.Sublist.refl _, SkelLe.refl _, rfl, rfl⟩, List.prefix_append _ _, List.prefix_append _ _,
    List.prefix_append _ _, List.prefix_append _ _, rfl, rfl, Nat.le_refl _, Nat.le_succ _⟩

theorem Grows_mapPart (s : Sess) (pi : Nat) (g : List Node → List Node) :
    Grows s { s with doc := modPart s.doc pi (mapNodesBlocks g) } :=
  (Still_mapPart s pi g).grows

end Adeu.Doc
