import AdeuModel.Model.Engine
import AdeuModel.Lemmas.Blocks
/-
The functions that change paragraphs inside a block tree (`modBlocks`, `mapNodesBlocks`, `firstParaBlocks`) leave the
tree around the paragraphs alone, and `replaceRun` leaves the children around the one run alone.  What that means for
the content stream is said once, for any relation between streams that survives a common context (`StreamRel`);
equality of streams, "keeps the skeleton" and "adds only such marks" are instances.
-/
namespace Adeu.Doc
open Adeu

theorem streamBlocks_cons (b : Block) (bs : List Block) : streamBlocks (b :: bs) = streamBlocks [b] ++ streamBlocks bs := by
  cases b <;> simp [streamBlocks]

theorem streamBlocks_append (a b : List Block) : streamBlocks (a ++ b) = streamBlocks a ++ streamBlocks b := by
  induction a with
  | nil => simp [streamBlocks]
  | cons x r ih => rw [List.cons_append, streamBlocks_cons, streamBlocks_cons x r, ih, List.append_assoc]

/-- a relation between content streams that holds of equal streams and goes through concatenation -/
structure StreamRel {α} (R : List α → List α → Prop) : Prop where
  refl : ∀ l, R l l
  append : ∀ {a a' b b'}, R a a' → R b b' → R (a ++ b) (a' ++ b')

namespace StreamRel

section
variable {β} {R : List β → List β → Prop} (hR : StreamRel R)
include hR

theorem left (pre : List β) {a b} (h : R a b) : R (pre ++ a) (pre ++ b) := hR.append (hR.refl pre) h

theorem right (post : List β) {a b} (h : R a b) : R (a ++ post) (b ++ post) := hR.append h (hR.refl post)

theorem flatMap_zipIdx {α} (c : α → List β) (F : α × Nat → List α) (hF : ∀ x, R (c x.1) ((F x).flatMap c)) :
    ∀ (l : List α) (n : Nat), R (l.flatMap c) (((l.zipIdx n).flatMap F).flatMap c) := by
  intro l
  induction l with
  | nil => exact fun _ => hR.refl _
  | cons a r ih =>
    intro n
    simp only [List.zipIdx_cons, List.flatMap_cons, List.flatMap_append]
    exact hR.append (hF (a, n)) (ih (n + 1))

end

/-- `replaceRun`: what is put in place of the run is all that happens to the content of the child list -/
theorem replaceRun {R : List CItem → List CItem → Prop} (hR : StreamRel R) (ns : List Node) (loc : Loc)
    (top : Run → List Node) (inIns : Run → List InsChild) (inDel : Run → List Run)
    (h1 : ∀ r, R (canonRun r) ((top r).flatMap canonNode))
    (h2 : ∀ r, R (canonRun r) ((inIns r).flatMap canonInsChild))
    (h3 : ∀ r, R (canonRun r) ((inDel r).flatMap canonRun)) :
    R (canonNodes ns) (canonNodes (Doc.replaceRun ns loc top inIns inDel)) := by
  have same : ∀ {α} (c : α → List CItem) (a : α), R (c a) ([a].flatMap c) := fun c a => by
    rw [List.flatMap_singleton]; exact hR.refl _
  unfold Doc.replaceRun canonNodes
  split
  · refine hR.flatMap_zipIdx canonNode _ (fun ⟨n, i⟩ => ?_) ns 0
    dsimp only
    split
    · cases n with
      | run r => exact h1 r
      | _ => exact same _ _
    · exact same _ _
  · rw [List.map_eq_flatMap]
    refine hR.flatMap_zipIdx canonNode _ (fun ⟨n, i⟩ => ?_) ns 0
    dsimp only
    rw [List.flatMap_singleton]
    by_cases hi : i = loc.node
    · rw [if_pos hi]
      cases n with
      | ins rev ch =>
        refine hR.left [_] (hR.right _ (hR.flatMap_zipIdx canonInsChild _ (fun ⟨c, j⟩ => ?_) ch 0))
        dsimp only
        split
        · cases c with
          | run r => exact h2 r
          | _ => exact same _ _
        · exact same _ _
      | del rev runs =>
        refine hR.left [_] (hR.right _ (hR.flatMap_zipIdx canonRun _ (fun ⟨r, j⟩ => ?_) runs 0))
        dsimp only
        split
        · exact h3 r
        · exact same _ _
      | _ => exact hR.refl _
    · rw [if_neg hi]; exact hR.refl _

variable {R : List DItem → List DItem → Prop} (hR : StreamRel R)
include hR

theorem blocks_cons (b : Block) {bs bs' : List Block} (h : R (streamBlocks bs) (streamBlocks bs')) :
    R (streamBlocks (b :: bs)) (streamBlocks (b :: bs')) := by
  rw [streamBlocks_cons, streamBlocks_cons b bs']; exact hR.left _ h

/-- an element (table, row, cell) between its opening and its closing item, and what follows it -/
theorem bracket (o c : DItem) {a a' b b' : List DItem} (h1 : R a a') (h2 : R b b') :
    R (o :: a ++ [c] ++ b) (o :: a' ++ [c] ++ b') :=
  hR.append (hR.right _ (hR.left [_] h1)) h2

/-- `modBlocks`: what `f` does to one paragraph is all that happens to the stream -/
theorem mod (f : Para → Para × List Block)
    (hf : ∀ p, R (streamBlocks [.para p]) (streamBlocks (.para (f p).1 :: (f p).2))) :
    (∀ (path : List Nat) (bs : List Block), R (streamBlocks bs) (streamBlocks (modBlocks f path bs))) ∧
    (∀ (ri ci : Nat) (more : List Nat) (rows : List Row), R (streamRows rows) (streamRows (modRows f ri ci more rows))) ∧
    (∀ (ci : Nat) (more : List Nat) (cells : List Cell), R (streamCells cells) (streamCells (modCells f ci more cells))) := by
  apply modBlocks.mutual_induct f
  · intro bs; simp only [modBlocks]; exact hR.refl _
  · intro x hx; cases x with | nil => exact (hx rfl).elim | cons => simp only [modBlocks]; exact hR.refl _
  · intro bs p p' extra _
    simp only [modBlocks]
    rw [streamBlocks_cons, streamBlocks_append _ bs]
    exact hR.right _ (hf p)
  · intro bs pr g rows ri ci more ih
    simp only [modBlocks, streamBlocks]; exact hR.bracket _ _ ih (hR.refl _)
  · intro rest bs b h1 h2
    -- `h1`, `h2`: neither a paragraph at the end of the path nor a table with a path into it, so the block stays
    simp only [modBlocks]; exact hR.refl _
  · intro k rest b bs ih
    simp only [modBlocks]; exact hR.blocks_cons b ih
  · intro _ _ _; simp only [modRows]; exact hR.refl _
  · intro ci more pr cells rs ih; simp only [modRows, streamRows]; exact hR.bracket _ _ ih (hR.refl _)
  · intro k ci more r rs ih; cases r; simp only [modRows, streamRows]; exact hR.bracket _ _ (hR.refl _) ih
  · intro _ _; simp only [modCells]; exact hR.refl _
  · intro more pr s v bs cs ih; simp only [modCells, streamCells]; exact hR.bracket _ _ ih (hR.refl _)
  · intro k more c cs ih; cases c; simp only [modCells, streamCells]; exact hR.bracket _ _ (hR.refl _) ih

/-- `mapNodesBlocks`: what `g` does to the children of each paragraph is all that happens to the stream -/
theorem mapNodes (g : List Node → List Node)
    (hg : ∀ p : Para, R (streamBlocks [.para p]) (streamBlocks [.para { p with nodes := g p.nodes }])) :
    (∀ bs : List Block, R (streamBlocks bs) (streamBlocks (mapNodesBlocks g bs))) ∧
    (∀ rs : List Row, R (streamRows rs) (streamRows (mapNodesRows g rs))) ∧
    (∀ cs : List Cell, R (streamCells cs) (streamCells (mapNodesCells g cs))) := by
  apply blocks_induction
  · simp only [mapNodesBlocks]; exact hR.refl _
  · intro p rest ih
    simp only [mapNodesBlocks]
    rw [streamBlocks_cons, streamBlocks_cons _ (mapNodesBlocks g rest)]
    exact hR.append (hg p) ih
  · intro pr gr rows rest ih1 ih2
    simp only [mapNodesBlocks, streamBlocks]; exact hR.bracket _ _ ih1 ih2
  · intro x rest ih
    simp only [mapNodesBlocks]; exact hR.blocks_cons _ ih
  · simp only [mapNodesRows]; exact hR.refl _
  · intro pr cells rest ih1 ih2
    simp only [mapNodesRows, streamRows]; exact hR.bracket _ _ ih1 ih2
  · simp only [mapNodesCells]; exact hR.refl _
  · intro pr s v bs rest ih1 ih2
    simp only [mapNodesCells, streamCells]; exact hR.bracket _ _ ih1 ih2

/-- `firstParaBlocks`: what `f` does to the children of the paragraph it picks is all that happens to the stream -/
theorem firstPara (f : List Node → Option (List Node))
    (hf : ∀ (p : Para) ns, f p.nodes = some ns → R (streamBlocks [.para p]) (streamBlocks [.para { p with nodes := ns }])) :
    (∀ bs bs' : List Block, firstParaBlocks f bs = some bs' → R (streamBlocks bs) (streamBlocks bs')) ∧
    (∀ rs rs' : List Row, firstParaRows f rs = some rs' → R (streamRows rs) (streamRows rs')) ∧
    (∀ cs cs' : List Cell, firstParaCells f cs = some cs' → R (streamCells cs) (streamCells cs')) := by
  apply firstParaBlocks.mutual_induct f
  · intro bs' h; simp [firstParaBlocks] at h
  · intro p rest ns hns bs' h
    simp only [firstParaBlocks, hns] at h
    cases h
    rw [streamBlocks_cons, streamBlocks_cons _ rest]
    exact hR.right _ (hf p ns hns)
  · intro p rest hns ih bs' h
    simp only [firstParaBlocks, hns] at h
    obtain ⟨r, hr, rfl⟩ := Option.map_eq_some_iff.mp h
    exact hR.blocks_cons _ (ih r hr)
  · intro pr g rows rest rows' hrows ih bs' h
    simp only [firstParaBlocks, hrows] at h
    cases h
    simp only [streamBlocks]; exact hR.bracket _ _ (ih rows' hrows) (hR.refl _)
  · intro pr g rows rest hrows _ ih bs' h
    simp only [firstParaBlocks, hrows] at h
    obtain ⟨r, hr, rfl⟩ := Option.map_eq_some_iff.mp h
    exact hR.blocks_cons _ (ih r hr)
  · intro x rest ih bs' h
    simp only [firstParaBlocks] at h
    obtain ⟨r, hr, rfl⟩ := Option.map_eq_some_iff.mp h
    exact hR.blocks_cons _ (ih r hr)
  · intro rs' h; simp [firstParaRows] at h
  · intro pr cells rest cells' hc ih rs' h
    simp only [firstParaRows, hc] at h
    cases h
    simp only [streamRows]; exact hR.bracket _ _ (ih cells' hc) (hR.refl _)
  · intro pr cells rest hc _ ih rs' h
    simp only [firstParaRows, hc] at h
    obtain ⟨r, hr, rfl⟩ := Option.map_eq_some_iff.mp h
    simp only [streamRows]; exact hR.bracket _ _ (hR.refl _) (ih r hr)
  · intro cs' h; simp [firstParaCells] at h
  · intro pr s v bs rest bs' hb ih cs' h
    simp only [firstParaCells, hb] at h
    cases h
    simp only [streamCells]; exact hR.bracket _ _ (ih bs' hb) (hR.refl _)
  · intro pr s v bs rest hb _ ih cs' h
    simp only [firstParaCells, hb] at h
    obtain ⟨r, hr, rfl⟩ := Option.map_eq_some_iff.mp h
    simp only [streamCells]; exact hR.bracket _ _ (hR.refl _) (ih r hr)

end StreamRel

theorem StreamRel.eq {α} : StreamRel (@Eq (List α)) := ⟨fun _ => rfl, fun h1 h2 => h1 ▸ h2 ▸ rfl⟩

/-- a `StreamRel` between readings `φ a`, `φ b` of two streams (their skeletons, their revision marks) is a `StreamRel` of the
streams when `φ` goes through `++` -/
theorem StreamRel.comap {α β} (φ : List α → List β) (hφ : ∀ a b, φ (a ++ b) = φ a ++ φ b) {Q : List β → List β → Prop}
    (hQ : StreamRel Q) : StreamRel fun a b => Q (φ a) (φ b) :=
  ⟨fun _ => hQ.refl _, fun h1 h2 => by rw [hφ, hφ]; exact hQ.append h1 h2⟩

end Adeu.Doc
