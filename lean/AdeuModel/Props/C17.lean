import AdeuModel.Model.Tools
/-
C17 — tool front-ends are safe: errors are reported, files are never clobbered.

`run r fs` is one call of a tool / command with a failure of internal step `r.fault` (for every
position, `none` = no failure).  The theorems quantify over every request, every file system and
every fault position; the only hypothesis is that the temporary name of the save protocol is not an
existing file.
-/
namespace Adeu.Props.C17
open Adeu.Tools

theorem write_remove_fresh (fs : FS) (tmp : Path) (c : String) (h : fs tmp = none) :
    (fs.write tmp c).remove tmp = fs := by
  funext q
  unfold FS.write FS.remove
  by_cases hq : q = tmp
  · simp [hq, h]
  · simp [hq]

theorem ite_ite_same {α : Type} (a b : Prop) [Decidable a] [Decidable b] (x y : α) :
    (if a then x else if b then x else y) = if a ∨ b then x else y := by
  by_cases ha : a <;> by_cases hb : b <;> simp [ha, hb]

abbrev saveFault (fault : Option Nat) (base : Nat) : Prop :=
  fault = some base ∨ fault = some (base + 1) ∨ fault = some (base + 2)

theorem save_fst (fs : FS) (out tmp : Path) (data : String) (fault : Option Nat) (base : Nat) :
    (save fs out tmp data fault base).1 = if saveFault fault base then .error else .ok := by
  simp only [save, apply_ite Prod.fst, ite_ite_same]

/-- with a fresh temporary name, the save protocol either fails and leaves everything as it was, or
writes the output and nothing else -/
theorem save_eq (fs : FS) (out tmp : Path) (data : String) (fault : Option Nat) (base : Nat)
    (h : fs tmp = none) :
    save fs out tmp data fault base =
      if saveFault fault base then (.error, fs) else (.ok, fs.write out data) := by
  simp only [save, write_remove_fresh fs tmp _ h, ite_ite_same]

/-- the call ends before the save phase: the input is refused, or one of the steps `0..nCompute` fails -/
abbrev stops (r : Req) (fs : FS) : Prop :=
  (r.tool.needsAuthor && !r.authorOk) = true ∨
  (decide (r.srcState = .missing) || decide (fs r.src.str = none)) = true ∨
  r.fault = some 0 ∨ r.srcState ≠ .valid ∨ inCompute r.fault r.nCompute = true

/-- The cascade of `run` as three outcomes; the five refusals all return `(.error, fs)`, so
`ite_ite_same` folds them into one test. Every clause below starts from this equation, so that none
has to split the cascade. -/
theorem run_eq (r : Req) (fs : FS) :
    run r fs = if stops r fs then (.error, fs) else
      if r.tool.writes then save fs (outPath r) r.tmp r.result r.fault (r.nCompute + 1) else (.ok, fs) := by
  simp only [run, ite_ite_same]
  cases r.tool.writes <;> rfl

/-- What a call does, in one statement: it reports an error and leaves the file system alone, or it
succeeds and has written the designated output (a writing tool) or nothing (a reading tool). -/
theorem run_cases (r : Req) (fs : FS) (h : r.tool.writes = true → fs r.tmp = none) :
    run r fs = (.error, fs) ∨
    run r fs = (.ok, if r.tool.writes then fs.write (outPath r) r.result else fs) := by
  rw [run_eq]
  by_cases hs : stops r fs
  · exact .inl (if_pos hs)
  rw [if_neg hs]
  cases hw : r.tool.writes
  · exact .inr rfl
  rw [if_pos rfl, if_pos rfl, save_eq _ _ _ _ _ _ (h hw)]
  by_cases hf : saveFault r.fault (r.nCompute + 1)
  · exact .inl (if_pos hf)
  · exact .inr (if_neg hf)

/-- When a call reports an error — whichever internal step failed, whatever was wrong with the
input — the file system is exactly as it was: no output created or altered, no temporary file left. -/
theorem C17_error_no_fs_change (r : Req) (fs : FS) (h : fs r.tmp = none) (he : (run r fs).1 = .error) :
    (run r fs).2 = fs := by
  rcases run_cases r fs (fun _ => h) with e | e
  · rw [e]
  · rw [e] at he; cases he

theorem inCompute_some (k n : Nat) : inCompute (some k) n = true ↔ 1 ≤ k ∧ k ≤ n := by
  simp [inCompute]

theorem run_error_iff (r : Req) (fs : FS) :
    (run r fs).1 = .error ↔
      stops r fs ∨ (r.tool.writes = true ∧ saveFault r.fault (r.nCompute + 1)) := by
  rw [run_eq]
  by_cases hs : stops r fs
  · simp only [hs, true_or, if_true]
  rw [if_neg hs]
  cases r.tool.writes
  · simp [hs]
  · rw [if_pos rfl, save_fst]
    by_cases hf : saveFault r.fault (r.nCompute + 1)
    · simp [hf]
    · simp [hf, hs]

/-- every failing step is reported: with a fault at any step the call actually reaches, the outcome
is an error -/
theorem C17_fault_reported (r : Req) (fs : FS) (k : Nat) (hf : r.fault = some k)
    (hk : k ≤ r.nCompute + (if r.tool.writes then 3 else 0)) : (run r fs).1 = .error := by
  rw [run_error_iff]
  -- `k = 0`, or `1 ≤ k ≤ nCompute`, or (a writing tool) `k` is one of the three steps of the save
  simp only [stops, saveFault, hf, inCompute_some, Option.some.injEq]
  cases hw : r.tool.writes
  · simp only [hw, Bool.false_eq_true, ↓reduceIte] at hk; omega
  · simp only [hw, ↓reduceIte] at hk; simp only [true_and]; omega

/-- A successful call of a writing tool changes exactly one path, the designated output, which then
holds what the library produced; every other path — the source included, unless it is itself the
output — is untouched. -/
theorem C17_ok_writes_only_output (r : Req) (fs : FS) (h : fs r.tmp = none) (hw : r.tool.writes = true)
    (hok : (run r fs).1 = .ok) :
    (run r fs).2 (outPath r) = some r.result ∧ ∀ p, p ≠ outPath r → (run r fs).2 p = fs p := by
  rcases run_cases r fs (fun _ => h) with e | e
  · rw [e] at hok; cases hok
  · rw [e, hw]
    exact ⟨if_pos rfl, fun p hp => if_neg hp⟩

/-- tools that only read never change anything -/
theorem C17_readers_change_nothing (r : Req) (fs : FS) (hw : r.tool.writes = false) : (run r fs).2 = fs := by
  rcases run_cases r fs (fun h => absurd h (by simp [hw])) with e | e
  · rw [e]
  · rw [e, hw]; rfl

/-- default output names follow the documented suffixes; the in-place convention applies exactly to
sources that already carry the suffix -/
theorem C17_default_names (p : P) :
    defaultOut .acceptAll p = p.dir ++ "/" ++ p.stem ++ "_clean" ++ p.suffix ∧
    defaultOut .markupMd p = p.dir ++ "/" ++ p.stem ++ "_markup.md" ∧
    (p.stem.endsWith "_redlined" = true → defaultOut .applyEdits p = p.str ∧ defaultOut .cliApply p = p.str) ∧
    (p.stem.endsWith "_redlined" = false → defaultOut .applyEdits p = p.dir ++ "/" ++ p.stem ++ "_redlined" ++ p.suffix ∧
        defaultOut .cliApply p = p.dir ++ "/" ++ p.stem ++ "_redlined.docx") ∧
    (p.stem.endsWith "_reviewed" = true → defaultOut .reviewActions p = p.str) ∧
    (p.stem.endsWith "_reviewed" = false → defaultOut .reviewActions p = p.dir ++ "/" ++ p.stem ++ "_reviewed" ++ p.suffix) := by
  refine ⟨rfl, rfl, ?_, ?_, ?_, ?_⟩ <;> intro h <;> simp [defaultOut, h]

/-- the source is modified only when it is the designated output -/
theorem C17_source_untouched (r : Req) (fs : FS) (h : fs r.tmp = none)
    (hs : outPath r ≠ r.src.str) : (run r fs).2 r.src.str = fs r.src.str := by
  rcases run_cases r fs (fun _ => h) with e | e
  · rw [e]
  · rw [e]
    cases r.tool.writes
    · rfl
    · exact if_neg hs.symm

/-- CLI exit status: non-zero exactly when the call failed or (apply) something was skipped -/
theorem C17_cli_exit (r : Req) (fs : FS) :
    exitCode r fs ≠ 0 ↔ ((run r fs).1 = .error ∨ (r.tool = .cliApply ∧ r.skipped > 0)) := by
  unfold exitCode
  cases h : (run r fs).1
  · simp only [reduceCtorEq, false_or]
    by_cases hc : r.tool = .cliApply <;> simp [hc]
    omega
  · simp

/-- The pinned tree (4fd4704) violated the property: a failed write reported an error and left a
truncated output behind.  (Repaired in /repo by the `fix:` commits recorded in known_findings.json.) -/
theorem C17_pinned_counterexample :
    ∃ (fs : FS) (out : Path), (savePinned fs out "DATA" (some 1) 0).1 = .error ∧
      (savePinned fs out "DATA" (some 1) 0).2 out ≠ fs out := by
  refine ⟨fun _ => none, "out.docx", by simp [savePinned], ?_⟩
  simp [savePinned, FS.write]

/-! Non-vacuity: a request that reaches the save phase, with a fresh temporary name -/
def sampleReq : Req := { tool := .applyEdits, src := ⟨"D", "doc", ".docx"⟩, srcState := .valid, out := none, authorOk := true,
                         nCompute := 3, skipped := 0, result := "R", fault := some 5, tmp := "D/.tmp" }
def sampleFS : FS := fun p => if p = "D/doc.docx" then some "SRC" else none
example : sampleFS sampleReq.tmp = none ∧ (run sampleReq sampleFS).1 = .error := by decide +kernel
example : (run { sampleReq with fault := none } sampleFS).2 "D/doc_redlined.docx" = some "R" := by decide +kernel

end Adeu.Props.C17
