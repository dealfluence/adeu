import AdeuModel.Model.Extract
namespace Adeu.Doc
open Adeu

/-- Specification of the accepted view of one paragraph: every run that is not inside a deletion
contributes its formatted segment, exactly once, in document order; nothing else appears. -/
def cleanSegs : RevMap → List Item → Str
  | _, [] => []
  | del, .run r _ :: rest =>
    (if !del.isEmpty then [] else applyFormatting (runText r) (runMarkers r).1 (runMarkers r).2) ++ cleanSegs del rest
  | del, .ev ty id a :: rest =>
    match ty with
    | .delStart => cleanSegs (revSet id a del) rest
    | .delEnd => cleanSegs (revDel id del) rest
    | _ => cleanSegs del rest

theorem PSt.flush_del (s : PSt) : s.flush.del = s.del := by unfold PSt.flush; split <;> rfl
theorem PSt.flush_deferred (s : PSt) : s.flush.deferred = s.deferred := by unfold PSt.flush; split <;> rfl
theorem PSt.flush_ins (s : PSt) : s.flush.ins = s.ins := by unfold PSt.flush; split <;> rfl
theorem PSt.flush_comments (s : PSt) : s.flush.comments = s.comments := by unfold PSt.flush; split <;> rfl

theorem flush_flush (s : PSt) : s.flush.pending = [] := by
  unfold PSt.flush; split
  · rename_i h; simpa using h
  · rfl

/-- accumulated output of a state whose wrappers are empty -/
def PSt.text (s : PSt) : Str := s.out ++ s.pending

theorem PSt.flush_text (s : PSt) (h : s.wr = ([], [])) : s.flush.text = s.text := by
  unfold PSt.flush PSt.text
  split
  · rfl
  · simp [h]

theorem PSt.flush_wr (s : PSt) (h : s.wr = ([], [])) : s.flush.wr = ([], []) := by
  unfold PSt.flush; split <;> simp [h]

theorem push_marks (s : PSt) (seg : Str) (nw : Str × Str) :
    (s.push seg nw).ins = s.ins ∧ (s.push seg nw).del = s.del ∧ (s.push seg nw).comments = s.comments ∧
      (s.push seg nw).deferred = s.deferred := by
  unfold PSt.push; split
  · exact ⟨rfl, rfl, rfl, rfl⟩
  · split <;> exact ⟨rfl, rfl, rfl, rfl⟩

/-- a run's segment joins the buffer when that has the same wrappers; otherwise the buffer is flushed and started anew -/
theorem PSt.push_eq (s : PSt) (seg : Str) (nw : Str × Str) :
    s.push seg nw = if (!s.pending.isEmpty && nw = s.wr) = true then { s with pending := s.pending ++ seg }
      else { s.flush with pending := seg, wr := nw } := by
  -- an empty buffer is not extended, and flushing it changes nothing; otherwise both sides compute to the same
  by_cases hp : s.pending.isEmpty = true
  · simp only [PSt.push, PSt.flush, hp, Bool.not_true, Bool.false_and, Bool.false_eq_true, ↓reduceIte]
  · simp only [PSt.push, PSt.flush, hp, Bool.false_eq_true, ↓reduceIte]

theorem cleanSegs_ev (s : PSt) (ty : EvTy) (id : Str) (a : Option Str) (rest : List Item) :
    cleanSegs s.del (.ev ty id a :: rest) = cleanSegs (applyEv s ty id a).del rest := by cases ty <;> rfl

/-- One step of the accepted view: the wrappers stay empty, the deferred snapshots stay as they are, and the text read so
far grows by what `cleanSegs` says of the item (stated with the items still to come, so that it composes along the loop). -/
theorem paraStep_clean (cm : CMap) (s : PSt) (it : Item) (rest : List Item) (h : s.wr = ([], [])) :
    (paraStep true cm s it rest).wr = ([], []) ∧ (paraStep true cm s it rest).deferred = s.deferred ∧
    ∀ its, (paraStep true cm s it rest).text ++ cleanSegs (paraStep true cm s it rest).del its =
      s.text ++ cleanSegs s.del (it :: its) := by
  cases it with
  | ev ty id a =>
    -- the step is `applyEv s.flush`, and the flush keeps all that is spoken of: let it be any state
    have hw := s.flush_wr h
    rw [← s.flush_text h, ← s.flush_del, ← s.flush_deferred, paraStep]
    generalize s.flush = s' at hw ⊢
    cases ty <;> exact ⟨hw, rfl, fun _ => rfl⟩
  | run r loc =>
    by_cases hd : (!s.del.isEmpty) = true
    · simp only [paraStep, cleanSegs, Bool.true_and, hd, ↓reduceIte]
      exact ⟨h, trivial, fun _ => rfl⟩
    · by_cases he : (applyFormatting (runText r) (runMarkers r).1 (runMarkers r).2).isEmpty = true
      · simp only [paraStep, cleanSegs, Bool.true_and, hd, Bool.false_eq_true, ↓reduceIte, List.isEmpty_iff.mp he,
          List.isEmpty_nil]
        exact ⟨h, trivial, fun _ => rfl⟩
      · simp only [paraStep, cleanSegs, Bool.true_and, hd, he, Bool.false_eq_true, ↓reduceIte]
        unfold PSt.push PSt.text
        cases hp : s.pending <;> simp [h, List.append_assoc]

theorem paraLoop_clean (cm : CMap) : ∀ (its : List Item) (s : PSt), s.wr = ([], []) → s.deferred = [] →
    (paraLoop true cm s its).flush.text = s.text ++ cleanSegs s.del its ∧
    (paraLoop true cm s its).deferred = [] := by
  intro its
  induction its with
  | nil => intro s h hd; exact ⟨by rw [paraLoop, s.flush_text h, cleanSegs, List.append_nil], hd⟩
  | cons it rest ih =>
    intro s h hd
    obtain ⟨hw, hdf, ht⟩ := paraStep_clean cm s it rest h
    rw [paraLoop, ← ht rest]
    exact ih _ hw (hdf.trans hd)

/-- The accepted view of a paragraph is exactly the formatted segments of its non-deleted runs. -/
theorem paraText_clean (cm : CMap) (p : Para) : paraText true cm p = cleanSegs [] (items p) := by
  obtain ⟨ht, hd⟩ := paraLoop_clean cm (items p) {} rfl rfl
  -- after the final flush nothing is pending, so the text is the output
  rw [PSt.text, flush_flush, List.append_nil] at ht
  unfold paraText
  simp only [PSt.flush_deferred, hd, List.isEmpty_nil, ↓reduceIte]
  exact ht

end Adeu.Doc
