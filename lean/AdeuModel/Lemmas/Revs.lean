import AdeuModel.Lemmas.Grow
/-
The revision marks of a document (`revsDoc`: the `w:ins` / `w:del` that are paragraph children, read off the canonical content
stream) and what each operation of the engine does to them: `OnlyNew New l l'` for lists of marks, `Adds New g` for a
rewriting `g` of a child list, `ParaRevs` for a paragraph update.
-/
namespace Adeu.Doc
open Adeu

/-- `l'` has only members of `l` and members that satisfy `New` -/
def OnlyNew {α} (New : α → Prop) (l l' : List α) : Prop := ∀ x ∈ l', x ∈ l ∨ New x

theorem OnlyNew.refl {α} {New : α → Prop} (l : List α) : OnlyNew New l l := fun _ h => .inl h

theorem OnlyNew.append {α} {New : α → Prop} {a a' b b' : List α} (h1 : OnlyNew New a a') (h2 : OnlyNew New b b') :
    OnlyNew New (a ++ b) (a' ++ b') := by
  intro x hx
  rcases List.mem_append.mp hx with hx | hx
  · exact (h1 x hx).imp_left (List.mem_append_left _)
  · exact (h2 x hx).imp_left (List.mem_append_right _)

theorem OnlyNew.trans {α} {New : α → Prop} {a b c : List α} (h1 : OnlyNew New a b) (h2 : OnlyNew New b c) : OnlyNew New a c :=
  fun x hx => (h2 x hx).elim (h1 x) .inr

theorem OnlyNew.subset {α} {l l' : List α} (h : OnlyNew (fun _ => False) l l') : ∀ x ∈ l', x ∈ l :=
  fun x hx => (h x hx).resolve_right id

def revOfD : DItem → Option Rev
  | .c (.insOpen r) => some r
  | .c (.delOpen r) => some r
  | _ => none

def revsStream (l : List DItem) : List Rev := l.filterMap revOfD
/-- the revision marks of a story, read off its canonical content stream -/
def revsBlocks (bs : List Block) : List Rev := revsStream (streamBlocks bs)

def revOfC : CItem → Option Rev
  | .insOpen r => some r
  | .delOpen r => some r
  | _ => none

/-- the marks among the children of one paragraph -/
def revsNodes (ns : List Node) : List Rev := (canonNodes ns).filterMap revOfC

theorem revsStream_append (a b : List DItem) : revsStream (a ++ b) = revsStream a ++ revsStream b := by
  simp [revsStream, List.filterMap_append]

theorem revsStream_map_c (l : List CItem) : revsStream (l.map DItem.c) = l.filterMap revOfC := by
  rw [revsStream, List.filterMap_map]
  congr 1; funext x; cases x <;> rfl

theorem revsBlocks_cons (b : Block) (bs : List Block) : revsBlocks (b :: bs) = revsBlocks [b] ++ revsBlocks bs := by
  unfold revsBlocks; rw [streamBlocks_cons, revsStream_append]

theorem revsBlocks_append (a b : List Block) : revsBlocks (a ++ b) = revsBlocks a ++ revsBlocks b := by
  unfold revsBlocks; rw [streamBlocks_append, revsStream_append]

theorem revsBlocks_para (p : Para) : revsBlocks [.para p] = revsNodes p.nodes := by
  have : streamBlocks [.para p] = [DItem.paraOpen p.style p.ppr] ++ (canonNodes p.nodes).map .c ++ [.paraClose] := by
    simp [streamBlocks]
  rw [revsBlocks, this, revsStream_append, revsStream_append, revsStream_map_c]
  exact List.append_nil _

theorem revsBlocks_nil : revsBlocks [] = [] := by simp [revsBlocks, streamBlocks, revsStream]

theorem StreamRel.revs (New : Rev → Prop) : StreamRel fun a b => OnlyNew New (revsStream a) (revsStream b) :=
  .comap _ revsStream_append ⟨OnlyNew.refl, OnlyNew.append⟩

/-- a paragraph update whose marks are the paragraph's own marks or new ones satisfying `New` -/
def ParaRevs (New : Rev → Prop) (f : Para → Para × List Block) : Prop :=
  ∀ p, (∀ x ∈ revsNodes (f p).1.nodes, x ∈ revsNodes p.nodes ∨ New x) ∧ (∀ x ∈ revsBlocks (f p).2, New x)

theorem ParaRevs.revs {New : Rev → Prop} {f : Para → Para × List Block} (hf : ParaRevs New f) (p : Para) :
    OnlyNew New (revsBlocks [.para p]) (revsBlocks (.para (f p).1 :: (f p).2)) := by
  intro x hx
  rw [revsBlocks_cons, revsBlocks_para, List.mem_append] at hx
  rw [revsBlocks_para]
  exact hx.elim ((hf p).1 x) fun h => .inr ((hf p).2 x h)

theorem revs_modBlocks (New : Rev → Prop) (f : Para → Para × List Block) (hf : ParaRevs New f) :
    ∀ (path : List Nat) (bs : List Block) (x : Rev), x ∈ revsBlocks (modBlocks f path bs) → x ∈ revsBlocks bs ∨ New x :=
  ((StreamRel.revs New).mod f hf.revs).1

theorem revs_modRows (New : Rev → Prop) (f : Para → Para × List Block) (hf : ParaRevs New f) :
    ∀ (ri ci : Nat) (more : List Nat) (rows : List Row) (x : Rev),
      x ∈ revsStream (streamRows (modRows f ri ci more rows)) → x ∈ revsStream (streamRows rows) ∨ New x :=
  ((StreamRel.revs New).mod f hf.revs).2.1

theorem revs_modCells (New : Rev → Prop) (f : Para → Para × List Block) (hf : ParaRevs New f) :
    ∀ (ci : Nat) (more : List Nat) (cells : List Cell) (x : Rev),
      x ∈ revsStream (streamCells (modCells f ci more cells)) → x ∈ revsStream (streamCells cells) ∨ New x :=
  ((StreamRel.revs New).mod f hf.revs).2.2

theorem revs_setNodes {p : Para} {ns : List Node} (h : ∀ x ∈ revsNodes ns, x ∈ revsNodes p.nodes) :
    OnlyNew (fun _ => False) (revsBlocks [.para p]) (revsBlocks [.para { p with nodes := ns }]) := by
  rw [revsBlocks_para, revsBlocks_para]; exact fun x hx => .inl (h x hx)

theorem revs_mapNodesBlocks (g : List Node → List Node) (hg : ∀ ns x, x ∈ revsNodes (g ns) → x ∈ revsNodes ns) :
    ∀ (bs : List Block) (x : Rev), x ∈ revsBlocks (mapNodesBlocks g bs) → x ∈ revsBlocks bs :=
  fun bs => (((StreamRel.revs _).mapNodes g fun p => revs_setNodes (hg p.nodes)).1 bs).subset

theorem revs_mapNodesRows (g : List Node → List Node) (hg : ∀ ns x, x ∈ revsNodes (g ns) → x ∈ revsNodes ns) :
    ∀ (rs : List Row) (x : Rev), x ∈ revsStream (streamRows (mapNodesRows g rs)) → x ∈ revsStream (streamRows rs) :=
  fun rs => (((StreamRel.revs _).mapNodes g fun p => revs_setNodes (hg p.nodes)).2.1 rs).subset

theorem revs_mapNodesCells (g : List Node → List Node) (hg : ∀ ns x, x ∈ revsNodes (g ns) → x ∈ revsNodes ns) :
    ∀ (cs : List Cell) (x : Rev), x ∈ revsStream (streamCells (mapNodesCells g cs)) → x ∈ revsStream (streamCells cs) :=
  fun cs => (((StreamRel.revs _).mapNodes g fun p => revs_setNodes (hg p.nodes)).2.2 cs).subset

theorem revs_firstParaBlocks (f : List Node → Option (List Node))
    (hf : ∀ ns ns', f ns = some ns' → ∀ x ∈ revsNodes ns', x ∈ revsNodes ns) : ∀ (bs bs' : List Block),
    firstParaBlocks f bs = some bs' → ∀ x ∈ revsBlocks bs', x ∈ revsBlocks bs :=
  fun bs bs' h => (((StreamRel.revs _).firstPara f fun _ ns hp => revs_setNodes (hf _ ns hp)).1 bs bs' h).subset

theorem revs_firstParaRows (f : List Node → Option (List Node))
    (hf : ∀ ns ns', f ns = some ns' → ∀ x ∈ revsNodes ns', x ∈ revsNodes ns) : ∀ (rs rs' : List Row),
    firstParaRows f rs = some rs' → ∀ x ∈ revsStream (streamRows rs'), x ∈ revsStream (streamRows rs) :=
  fun rs rs' h => (((StreamRel.revs _).firstPara f fun _ ns hp => revs_setNodes (hf _ ns hp)).2.1 rs rs' h).subset

theorem revs_firstParaCells (f : List Node → Option (List Node))
    (hf : ∀ ns ns', f ns = some ns' → ∀ x ∈ revsNodes ns', x ∈ revsNodes ns) : ∀ (cs cs' : List Cell),
    firstParaCells f cs = some cs' → ∀ x ∈ revsStream (streamCells cs'), x ∈ revsStream (streamCells cs) :=
  fun cs cs' h => (((StreamRel.revs _).firstPara f fun _ ns hp => revs_setNodes (hf _ ns hp)).2.2 cs cs' h).subset

theorem revsNodes_append (a b : List Node) : revsNodes (a ++ b) = revsNodes a ++ revsNodes b := by
  simp [revsNodes, canonNodes, List.flatMap_append, List.filterMap_append]

theorem revsNodes_cons (n : Node) (l : List Node) : revsNodes (n :: l) = revsNodes [n] ++ revsNodes l := by
  rw [← List.singleton_append, revsNodes_append]

theorem revsNodes_nil : revsNodes [] = [] := rfl

theorem revOfC_canonAtom (f : Fmt) (a : Atom) : (canonAtom f a).filterMap revOfC = [] := by
  cases a with
  | t s | dt s => exact List.filterMap_eq_nil_iff.mpr fun x hx => by obtain ⟨c, _, rfl⟩ := List.mem_map.mp hx; rfl
  | _ => rfl

theorem revOfC_canonRun (r : Run) : (canonRun r).filterMap revOfC = [] :=
  filterMap_flatMap_nil (revOfC_canonAtom r.fmt) r.ch

theorem revOfC_canonInsChild (c : InsChild) : (canonInsChild c).filterMap revOfC = [] := by
  cases c with
  | run r => exact revOfC_canonRun r
  | _ => rfl

/-- an element between its opening and its closing item, with no mark inside: only the opening item can be one -/
theorem revOfC_bracket (o c : CItem) {l : List CItem} (hl : l.filterMap revOfC = []) (hc : revOfC c = none) :
    (o :: l ++ [c]).filterMap revOfC = (revOfC o).toList := by
  rw [List.cons_append, List.filterMap_cons, List.filterMap_append, hl, List.filterMap_cons, hc]
  cases revOfC o <;> rfl

theorem revsNodes_single (n : Node) : revsNodes [n] = (revOf n).toList := by
  have e : revsNodes [n] = (canonNode n).filterMap revOfC :=
    congrArg (List.filterMap revOfC) (List.flatMap_singleton canonNode n)
  rw [e]
  cases n with
  | run r => exact revOfC_canonRun r
  | ins rev ch => exact revOfC_bracket _ _ (filterMap_flatMap_nil revOfC_canonInsChild ch) rfl
  | del rev runs => exact revOfC_bracket _ _ (filterMap_flatMap_nil revOfC_canonRun runs) rfl
  | hl a runs => exact revOfC_bracket _ _ (filterMap_flatMap_nil revOfC_canonRun runs) rfl
  | _ => rfl

theorem revsNodes_insNode (rev : Rev) (ch : List InsChild) : revsNodes [.ins rev ch] = [rev] := by
  rw [revsNodes_single]; rfl

theorem revsNodes_eq (ns : List Node) : revsNodes ns = ns.filterMap revOf := by
  induction ns with
  | nil => rfl
  | cons n rest ih => rw [revsNodes_cons, revsNodes_single, ih]; cases h : revOf n <;> simp [h]

theorem mem_revsNodes {x : Rev} {ns : List Node} : x ∈ revsNodes ns ↔ ∃ n ∈ ns, revOf n = some x := by
  rw [revsNodes_eq, List.mem_filterMap]

theorem noRevs {ns : List Node} (h : noMarks ns = true) (x : Rev) : x ∉ revsNodes ns := fun hx => by
  obtain ⟨n, hn, e⟩ := mem_revsNodes.mp hx
  rw [revOf_of_noMarks h hn] at e; cases e

theorem revsNodes_of_noMarks {ns : List Node} (h : noMarks ns = true) : revsNodes ns = [] :=
  List.eq_nil_iff_forall_not_mem.mpr (noRevs h)

/-- `g` adds only marks that satisfy `New` to a child list -/
def Adds (New : Rev → Prop) (g : List Node → List Node) : Prop := ∀ ns, OnlyNew New (revsNodes ns) (revsNodes (g ns))

theorem Adds.comp {New : Rev → Prop} {g g' : List Node → List Node} (h : Adds New g) (h' : Adds New g') :
    Adds New fun ns => g' (g ns) := fun ns => (h ns).trans (h' (g ns))

theorem Adds.insert {New : Rev → Prop} (i : Nat) {new : List Node} (hn : ∀ x ∈ revsNodes new, New x) :
    Adds New (insertNodesAt · i new) := by
  intro ns
  show OnlyNew New (revsNodes ns) (revsNodes (ns.take i ++ new ++ ns.drop i))
  -- the old children stand around the new ones
  have e : revsNodes ns = revsNodes (ns.take i) ++ [] ++ revsNodes (ns.drop i) := by
    rw [List.append_nil, ← revsNodes_append, List.take_append_drop]
  rw [e, revsNodes_append, revsNodes_append]
  exact ((OnlyNew.refl _).append fun x hx => .inr (hn x hx)).append (.refl _)

/-- `track_delete_run` on the children of a paragraph: the marks are the old ones plus the new deletion -/
theorem Adds.delete {New : Rev → Prop} (loc : Loc) {rev : Rev} (h : New rev) : Adds New (deleteRunNodes · loc rev) := by
  -- a run carries no mark; what stands in its place carries at most `rev`
  have put : ∀ (r : Run) (l : List CItem), (∀ x ∈ l.filterMap revOfC, x = rev) →
      OnlyNew New ((canonRun r).filterMap revOfC) (l.filterMap revOfC) := fun r l hl x hx => .inr (hl x hx ▸ h)
  refine fun ns => (StreamRel.comap (List.filterMap revOfC) (fun _ _ => List.filterMap_append)
    ⟨OnlyNew.refl, OnlyNew.append⟩).replaceRun ns loc _ _ _
    (fun r => put r _ fun x hx => ?_) (fun r => put r _ fun x hx => absurd hx List.not_mem_nil) (fun r => put r _ fun x hx => ?_)
  · have hx : x ∈ revsNodes [Node.del rev [r.deleted]] := hx
    rw [revsNodes_single] at hx
    exact List.mem_singleton.mp hx
  · rw [List.flatMap_singleton, revOfC_canonRun] at hx; cases hx

theorem Adds.takeOut {New : Rev → Prop} (n k : Nat) : Adds New fun ns => (takeOutOfIns ns n k).1 := by
  intro ns x (h : x ∈ revsNodes (takeOutOfIns ns n k).1)
  left
  obtain ⟨m, hm, hx⟩ := mem_revsNodes.mp h
  revert hm
  fun_cases takeOutOfIns ns n k with
  | case1 rev ch hn ch' hr =>
    -- the insertion stays, with fewer children
    intro hm
    rcases List.mem_or_eq_of_mem_set hm with hm | rfl
    · exact mem_revsNodes.mpr ⟨m, hm, hx⟩
    · exact mem_revsNodes.mpr ⟨.ins rev ch, List.mem_of_getElem? hn, hx⟩
  | case2 rev ch hn ch' hr =>
    -- the insertion is unwrapped: its children are no marks
    intro hm
    rcases List.mem_append.mp hm with hm | hm
    · rcases List.mem_append.mp hm with hm | hm
      · exact mem_revsNodes.mpr ⟨m, List.mem_of_mem_take hm, hx⟩
      · obtain ⟨c, _, rfl⟩ := List.mem_map.mp hm
        rw [toNode_revOf c] at hx; cases hx
    · exact mem_revsNodes.mpr ⟨m, List.mem_of_mem_drop hm, hx⟩
  | case3 hn => exact fun hm => mem_revsNodes.mpr ⟨m, hm, hx⟩

theorem Adds.cs {New : Rev → Prop} (i : Nat) (cid : Str) : Adds New (insertNodesAt · i [Node.cs cid]) :=
  .insert i fun x hx => absurd hx (noRevs rfl x)

theorem Adds.ce {New : Rev → Prop} (i : Nat) (cid : Str) : Adds New (insertNodesAt · i [Node.ce cid, Node.run (crefRun cid)]) :=
  .insert i fun x hx => absurd hx (noRevs rfl x)

theorem Adds.attach {New : Rev → Prop} (a b : Nat) (cid : Str) : Adds New (attachCommentNodes · a b cid) :=
  fun ns => (Adds.cs a cid ns).trans (Adds.ce (b + 2) cid _)

/-- a node-wise rewriting that leaves a node, drops it, or puts nodes that are no marks in its place adds no mark -/
theorem revs_flatMap {F : Node → List Node} (hF : ∀ n, ∀ m ∈ F n, m = n ∨ revOf m = none) (ns : List Node) (x : Rev)
    (h : x ∈ revsNodes (ns.flatMap F)) : x ∈ revsNodes ns := by
  obtain ⟨m, hm, hx⟩ := mem_revsNodes.mp h
  obtain ⟨n, hn, hmn⟩ := List.mem_flatMap.mp hm
  rcases hF n m hmn with rfl | h0
  · exact mem_revsNodes.mpr ⟨m, hn, hx⟩
  · rw [h0] at hx; cases hx

theorem revs_actN (acc : Bool) (id : Str) (ns : List Node) (x : Rev) (h : x ∈ revsNodes (ns.flatMap (actN acc id))) :
    x ∈ revsNodes ns :=
  revs_flatMap (fun n m hm => (actN_spec acc id n).elim (fun h' => .inl (List.mem_singleton.mp (h'.2 ▸ hm)))
    fun h' => .inr (h'.2 m hm)) ns x h

theorem revs_rejectN (id : Str) (ns : List Node) (x : Rev) (h : x ∈ revsNodes (ns.flatMap (rejectN id))) :
    x ∈ revsNodes ns :=
  revs_actN false id ns x h

theorem revs_acceptN (id : Str) (ns : List Node) (x : Rev) (h : x ∈ revsNodes (ns.flatMap (acceptN id))) :
    x ∈ revsNodes ns :=
  revs_actN true id ns x h

theorem revs_acceptAllN (ns : List Node) (x : Rev)
    (h : x ∈ revsNodes ((ns.flatMap acceptAllN).flatMap stripCommentN)) : x ∈ revsNodes ns := by
  refine revs_flatMap (fun n m hm => .inr (acceptAllN_revOf n m hm)) ns x (revs_flatMap (fun n m hm => ?_) _ x h)
  cases n with
  | cs i => cases hm
  | ce i => cases hm
  | run r => exact .inr (by rw [List.mem_singleton.mp hm]; rfl)
  | _ => exact .inl (List.mem_singleton.mp hm)

theorem insChildAfter_some (p : InsChild → Bool) (new : List InsChild) : ∀ (ch ch' : List InsChild),
    insChildAfter p new ch = some ch' → True := fun _ _ _ => trivial

/-- inserting range markers / a reference run next to an existing child adds no mark -/
theorem revs_insertAfterFirst (pTop : Node → Bool) (pIns : InsChild → Bool) (newTop : List Node) (newIns : List InsChild)
    (hnew : ∀ x, x ∉ revsNodes newTop) : ∀ (ns ns' : List Node),
    insertAfterFirst pTop pIns newTop newIns ns = some ns' → ∀ x ∈ revsNodes ns', x ∈ revsNodes ns := by
  intro ns
  fun_induction insertAfterFirst pTop pIns newTop newIns ns with
  | case1 => nofun
  | case2 n rest hp =>
    intro ns' h x hx
    cases h
    rw [List.cons_append, revsNodes_cons, revsNodes_append, List.mem_append, List.mem_append] at hx
    rw [revsNodes_cons, List.mem_append]
    exact hx.imp_right fun h => h.resolve_left (hnew x)
  | case3 rest rev ch hp ch' hc =>
    intro ns' h x hx
    cases h
    rwa [revsNodes_cons, revsNodes_insNode] at hx ⊢
  | case4 rest rev ch hp hc ih | case5 n rest hp hn ih =>
    -- the search goes on behind the first child
    intro ns' h x hx
    obtain ⟨r, hr, rfl⟩ := Option.map_eq_some_iff.mp h
    rw [revsNodes_cons, List.mem_append] at hx ⊢
    exact hx.imp_right (ih r hr x)

theorem revs_anchorReply (body : List Block) (parent new : Str) : ∀ x ∈ revsBlocks (anchorReply body parent new), x ∈ revsBlocks body :=
  anchorReply_induction (P := fun bs => ∀ x ∈ revsBlocks bs, x ∈ revsBlocks body) (fun _ h => h)
    (fun _ _ _ _ bs bs' hn hr h x hx =>
      h x (revs_firstParaBlocks _ (revs_insertAfterFirst _ _ _ _ (noRevs hn)) bs bs' hr x hx)) parent new

/-- blocks rewritten one by one (the rewriting may look at the index), each keeping its marks -/
theorem revsBlocks_map_zipIdx (F : Block × Nat → Block) (hF : ∀ x, revsBlocks [F x] = revsBlocks [x.1]) :
    ∀ (bs : List Block) (k : Nat), revsBlocks ((bs.zipIdx k).map F) = revsBlocks bs := by
  intro bs
  induction bs with
  | nil => exact fun _ => rfl
  | cons b rest ih => exact fun k => by rw [List.zipIdx_cons, List.map_cons, revsBlocks_cons, hF, ih, ← revsBlocks_cons]

theorem revsNodes_wrap {pre post : List Node} (h1 : noMarks pre = true) (h2 : noMarks post = true) (ns : List Node) :
    revsNodes (pre ++ ns ++ post) = revsNodes ns := by
  rw [revsNodes_append, revsNodes_append, revsNodes_of_noMarks h1, revsNodes_of_noMarks h2, List.nil_append, List.append_nil]

/-- the range markers and the reference run that `decorateBlocks` puts around the children of the first and the last
paragraph are no marks -/
theorem revs_decorateBlocks (bs : List Block) (cid : Str) (x : Rev) (h : x ∈ revsBlocks (decorateBlocks bs cid)) :
    x ∈ revsBlocks bs := by
  refine revsBlocks_map_zipIdx _ (fun ⟨b, i⟩ => ?_) bs 0 ▸ h
  cases b with
  | para p =>
    show revsBlocks [.para { p with nodes := _ ++ p.nodes ++ _ }] = revsBlocks [.para p]
    rw [revsBlocks_para, revsBlocks_para]
    exact revsNodes_wrap (by split <;> rfl) (by split <;> rfl) _
  | _ => rfl

theorem ParaRevs_same (New : Rev → Prop) (extra : List Block) (he : ∀ x ∈ revsBlocks extra, New x) :
    ParaRevs New (fun p => (p, extra)) :=
  fun _ => ⟨fun _ hx => Or.inl hx, he⟩

theorem noBlocks (New : Rev → Prop) : ∀ x ∈ revsBlocks ([] : List Block), New x :=
  fun x hx => by simp [revsBlocks_nil] at hx

def revsStories (ss : List Story) : List Rev := ss.flatMap fun s => revsBlocks s.blocks

/-- every revision mark of every story (paragraph children; marks inside opaque properties are not touched by the engine) -/
def revsDoc (d : Document) : List Rev := revsStories d.headers ++ revsBlocks d.body ++ revsStories d.footers

theorem revs_modFirstStory {New : Rev → Prop} (ty : Str) {g : List Block → List Block}
    (hg : ∀ bs, OnlyNew New (revsBlocks bs) (revsBlocks (g bs))) :
    ∀ ss : List Story, OnlyNew New (revsStories ss) (revsStories (modFirstStory ty g ss)) := by
  intro ss
  induction ss with
  | nil => exact .refl _
  | cons s rest ih =>
    simp only [modFirstStory]
    split
    · exact (hg _).append (.refl _)
    · exact (OnlyNew.refl _).append ih

theorem revs_modPart {New : Rev → Prop} (d : Document) (pi : Nat) {g : List Block → List Block}
    (hg : ∀ bs, OnlyNew New (revsBlocks bs) (revsBlocks (g bs))) : OnlyNew New (revsDoc d) (revsDoc (modPart d pi g)) := by
  unfold modPart
  split
  · exact ((OnlyNew.refl _).append (hg _)).append (.refl _)
  · exact ((revs_modFirstStory _ hg _).append (.refl _)).append (.refl _)
  · exact (OnlyNew.refl _).append (revs_modFirstStory _ hg _)
  · exact .refl _

theorem revs_mapPart {New : Rev → Prop} (d : Document) (pi : Nat) {g : List Node → List Node}
    (hg : ∀ ns x, x ∈ revsNodes (g ns) → x ∈ revsNodes ns) :
    OnlyNew New (revsDoc d) (revsDoc (modPart d pi (mapNodesBlocks g))) :=
  revs_modPart d pi fun bs y hy => .inl (revs_mapNodesBlocks g hg bs y hy)

theorem revs_modPara {New : Rev → Prop} (d : Document) (pp : PPath) {f : Para → Para × List Block}
    (hf : ParaRevs New f) : OnlyNew New (revsDoc d) (revsDoc (modPara d pp f)) := by
  cases pp with
  | nil => exact .refl _
  | cons pi rest => exact revs_modPart (g := modBlocks f rest) d pi (revs_modBlocks New f hf rest)

theorem revsDoc_setBody (d : Document) (b : List Block) (hb : ∀ x ∈ revsBlocks b, x ∈ revsBlocks d.body) :
    ∀ x ∈ revsDoc { d with body := b }, x ∈ revsDoc d :=
  OnlyNew.subset (((OnlyNew.refl _).append fun x hx => .inl (hb x hx)).append (.refl _))

theorem revsStories_eq (ss : List Story) :
    revsStories ss = (ss.map fun s => (s.ty, streamBlocks s.blocks)).flatMap fun p => revsStream p.2 := by
  simp [revsStories, revsBlocks, List.flatMap_map]

theorem revsDoc_of_canon {a b : Document} (h : canonDoc a = canonDoc b) : revsDoc a = revsDoc b := by
  simp only [canonDoc, CanonDoc.mk.injEq] at h
  simp only [revsDoc, revsStories_eq, h.1, h.2.2, revsBlocks, h.2.1]

end Adeu.Doc
