import AdeuModel.Lemmas.Attr
namespace Adeu.Doc
open Adeu

/-! ### the moves of the engine

`Reach s0 s`: the session `s` comes from `s0` by the moves the engine makes.  There are two kinds: appending a comment, and
a `Still` step (Lemmas/Grow: the comment store and the session's identity stay, every skeleton is kept, revision ids may be
handed out) after which every mark is an old one or one handed out since `s0`.  The `Still` steps of a batch are: moving run
boundaries (`frame`), handing out a revision id (`newRev`), updating one paragraph (`para`), mapping a function that adds
no mark over the paragraphs of one story (`mapPart`: rejecting an insertion that is rewritten); a review action replaces
the body by one with the same skeleton and no new mark (`setBody`).  The engine is walked once, for `Reach`
(`Reach.step_*`); every invariant (`RevOk` and with it `Grows` here, `CGrows`, `LGrows`) is an induction over `Reach`
from its facts about the two kinds of move.  What it carries is what follows from these two kinds: an invariant that needs
more of a step than `Still` and "only fresh marks are added" (that marks do not nest, say) needs a further condition on
`still`, proved along the walk.  There is no transitivity: `Fresh` names the start `s0`. -/

inductive Reach (s0 : Sess) : Sess → Prop
  | start : Reach s0 s0
  | still {s s' : Sess} : Reach s0 s → Still s s' → OnlyNew (Fresh s0 s') (revsDoc s.doc) (revsDoc s'.doc) → Reach s0 s'
  | addComment {s : Sess} (text : Str) (parent : Option Str) : Reach s0 s → Reach s0 (s.addComment text parent).1

theorem Reach.revOk {s0 s : Sess} (h : Reach s0 s) : RevOk s0 s := by
  induction h with
  | start => exact RevOk.refl s0
  | still _ hs hr ih => exact ih.step_still hs hr
  | addComment t p _ ih => exact ih.step_addComment t p

/-- `still` for a step that sets the document, with `d` a variable as in `RevOk.step_doc`: `mapPart` is slow without -/
theorem Reach.doc {s0 s : Sess} (h : Reach s0 s) {d : Document} (hs : Still s { s with doc := d })
    (hr : OnlyNew (Fresh s0 s) (revsDoc s.doc) (revsDoc d)) : Reach s0 { s with doc := d } :=
  h.still hs hr

theorem Reach.frame {s0 s s' : Sess} (h : Reach s0 s) (hf : s'.frame = s.frame) : Reach s0 s' :=
  h.still (Still_of_frame hf) (revsDoc_of_canon (congrArg (·.1) hf : canonDoc s'.doc = canonDoc s.doc) ▸ .refl _)

theorem Reach.newRev {s0 s : Sess} (h : Reach s0 s) : Reach s0 s.newRev.1 := h.still (Still_newRev s) (.refl _)

theorem Reach.para {s0 s : Sess} (h : Reach s0 s) (pp : PPath) {f : Para → Para × List Block} (hk : ParaKeep f)
    (hf : ParaRevs (Fresh s0 s) f) : Reach s0 { s with doc := modPara s.doc pp f } :=
  h.doc (Still_modPara s pp f hk) (revs_modPara s.doc pp hf)

theorem Reach.mapPart {s0 s : Sess} (h : Reach s0 s) (pi : Nat) {g : List Node → List Node}
    (hg : ∀ ns x, x ∈ revsNodes (g ns) → x ∈ revsNodes ns) : Reach s0 { s with doc := modPart s.doc pi (mapNodesBlocks g) } :=
  h.doc (Still_mapPart s pi g) (revs_mapPart s.doc pi hg)

theorem Reach.setBody {s0 s : Sess} (h : Reach s0 s) {b : List Block} (hs : skel b = skel s.doc.body)
    (hb : ∀ x ∈ revsBlocks b, x ∈ revsBlocks s.doc.body) : Reach s0 { s with doc := { s.doc with body := b } } :=
  h.doc (Still_setBody s b hs) fun x hx => .inl (revsDoc_setBody s.doc b hb x hx)

theorem Reach.fresh_newRev {s0 s : Sess} (h : Reach s0 s) : Fresh s0 s.newRev.1 s.newRev.2 := h.revOk.step_newRev.2

/-- a paragraph update `nodes := g nodes` (+ new paragraphs) that adds only fresh marks.  Call it as `(h.nodes … :)`:
unifying `g` with the goal before `hg` is elaborated fails, slowly -/
theorem Reach.nodes {s0 s : Sess} (h : Reach s0 s) (pp : PPath) {g : List Node → List Node} {extra : List Block}
    (hg : Adds (Fresh s0 s) g) (he : ∀ x ∈ revsBlocks extra, Fresh s0 s x) :
    Reach s0 { s with doc := modPara s.doc pp fun p => ({ p with nodes := g p.nodes }, extra) } :=
  h.para pp (fun _ => ⟨rfl, rfl⟩) fun p => ⟨hg p.nodes, he⟩

theorem Reach.step_trackDelete {s0 s : Sess} (h : Reach s0 s) (t : RunRef) : Reach s0 (trackDelete s t).1 :=
  (h.newRev.nodes _ (.delete _ h.fresh_newRev) (noBlocks _) :)

theorem Reach.step_foldl_trackDelete {s0 : Sess} (ts : List RunRef) :
    ∀ s : Sess, Reach s0 s → Reach s0 (ts.foldl (fun acc t => (trackDelete acc t).1) s) :=
  fun _ h => List.foldlRecOn ts _ h fun _ h t _ => h.step_trackDelete t

theorem Reach.step_retireTargets {s0 : Sess} (ts : List RunRef) (st : Retired) :
    Reach s0 st.s → Reach s0 (retireTargets st ts).s := by
  fun_induction retireTargets st ts
  · exact id
  · next ih => exact fun h => ih (h.nodes _ (.takeOut _ _) (noBlocks _) :)
  · next ih => exact fun h => ih (h.step_trackDelete _)

/-- what `track_insert` hands back, along the engine's moves: `InsertOk` (Lemmas/Attr) with `Reach` in place of the
`RevOk` that follows from it -/
structure Inserted (s0 : Sess) (r : Sess × Option Node × List Block) : Prop where
  reach : Reach s0 r.1
  node : ∀ n, r.2.1 = some n → ∀ x ∈ revsNodes [n], Fresh s0 r.1 x
  blocks : ∀ x ∈ revsBlocks r.2.2, Fresh s0 r.1 x

theorem Inserted.paras {s0 s : Sess} {bs : List Block} (h : Reach s0 s) (hb : ∀ x ∈ revsBlocks bs, Fresh s0 s x) :
    Inserted s0 (s, none, bs) := ⟨h, fun _ hn => (nomatch hn), hb⟩

theorem Inserted.inline {s0 s : Sess} (h : Reach s0 s) (ch : List InsChild) :
    Inserted s0 (s.newRev.1, some (Node.ins s.newRev.2 ch), []) :=
  ⟨h.newRev, (InsertOk.inline h.revOk ch).node, noBlocks _⟩

/-- the paragraphs `lineParas` creates, beside what was handed back before (an inline `w:ins` or nothing) -/
theorem Inserted.lineParas {s0 s : Sess} {n : Option Node} (hI : Inserted s0 (s, n, [])) {lines : List Str}
    {style : Option Run} {sup : Bool} {ppr : Para} {r : Sess × List Block} (e : lineParas s lines style sup ppr = r) :
    Inserted s0 (r.1, n, r.2) := by
  subst e
  refine List.foldlRecOn (motive := fun acc : Sess × List Block => Inserted s0 (acc.1, n, acc.2)) lines _ hI ?_
  intro acc ha line _
  simp only
  split
  · exact ha
  · refine ⟨ha.reach.newRev, fun m hm x hx => (ha.node m hm x hx).mono (Nat.le_succ _), fun x hx => ?_⟩
    rw [revsBlocks_append, List.mem_append] at hx
    rcases hx with hx | hx
    · exact (ha.blocks x hx).mono (Nat.le_succ _)
    · rw [revsBlocks_para] at hx
      have : x = (acc.1.newRev).2 := by
        split at hx <;> simpa [revsNodes_insNode] using hx
      subst this; exact ha.reach.fresh_newRev

/-- new paragraphs with the range of a new comment around them -/
theorem Inserted.decorate {s0 s : Sess} {bs : List Block} (hI : Inserted s0 (s, none, bs)) {c : Str} {r : Sess × Str}
    (e : s.addComment c none = r) : Inserted s0 (r.1, none, decorateBlocks bs r.2) :=
  e ▸ .paras (hI.reach.addComment c none) fun x hx => hI.blocks x (revs_decorateBlocks _ _ x hx)

/-- The ten branches of `track_insert`, in the order of the definition (`fun_cases`: what a `let (a, b) := …` binds comes
as an equation): nothing; the paragraphs of the lines, with the comment's range around them if there is one and
there are any (twice: a heading first, a line break first); an inline `w:ins`, alone or with paragraphs for the further
lines. -/
theorem Reach.step_trackInsert {s0 s : Sess} (h : Reach s0 s) {text : Str} {style : Option Run} {hasPara : Bool} {ap : Para}
    {comment : Option Str} {sup : Bool} {r : Sess × Option Node × List Block}
    (e : trackInsert s text style hasPara ap comment sup = r) : Inserted s0 r := by
  subst e
  have h0 : Inserted s0 (s, none, []) := .paras h (noBlocks _)
  fun_cases trackInsert s text style hasPara ap comment sup
  · exact h0
  · exact h0.lineParas ‹_›
  · exact (h0.lineParas ‹_›).decorate ‹_›
  · exact h0.lineParas ‹_›
  · exact h0
  · exact h0.lineParas ‹_›
  · exact (h0.lineParas ‹_›).decorate ‹_›
  · exact h0.lineParas ‹_›
  · next e _ _ => exact (e ▸ Inserted.inline h _ :)
  · next e _ _ _ _ e' => exact Inserted.lineParas (e ▸ Inserted.inline h _ :) e'

/-! The three functions that place what `track_insert` hands back, branch by branch (`fun_cases`).  In a branch, `e` is the
equation that names the parts of what was handed back and `ec` the one that names the session and the id after
`add_comment`; the latter is substituted, so that the session is `(s.addComment ..).1` and `Fresh` sees through it. -/

theorem Reach.step_placeInsertion {s0 s : Sess} (h : Reach s0 s) (a : RunRef) (before : Bool) (p : Para) (newText : Str)
    (comment : Option Str) : Reach s0 (placeInsertion s a before p newText comment) := by
  fun_cases placeInsertion s a before p newText comment
  · next e =>
    have hI := h.step_trackInsert e
    exact hI.reach.para _ (fun _ => ⟨rfl, rfl⟩) (ParaRevs_same _ _ hI.blocks)
  · next ec e =>
    have hI := h.step_trackInsert e
    obtain ⟨rfl, rfl⟩ := Prod.ext_iff.mp ec
    exact ((hI.reach.addComment _ none).nodes _ ((Adds.insert _ (hI.node _ rfl)).comp (.attach _ _ _)) hI.blocks :)
  · next e =>
    have hI := h.step_trackInsert e
    exact (hI.reach.nodes _ (.insert _ (hI.node _ rfl)) hI.blocks :)

theorem Reach.step_replaceTargets {s0 s : Sess} (h : Reach s0 s) (targets : List RunRef) (lastT : RunRef) (op : EOp)
    (newText : Str) (comment : Option Str) : Reach s0 (replaceTargets s targets lastT op newText comment) := by
  have hd : Reach s0 (retireTargets { s := s } targets).s := Reach.step_retireTargets targets { s := s } h
  fun_cases replaceTargets s targets lastT op newText comment
  -- a pure deletion: its comment, if any, goes around the deletion marks (in one paragraph, or in two)
  · next ec _ =>
    obtain ⟨rfl, rfl⟩ := Prod.ext_iff.mp ec
    exact ((hd.addComment _ none).nodes _ (.attach _ _ _) (noBlocks _) :)
  · next ec _ _ _ =>
    obtain ⟨rfl, rfl⟩ := Prod.ext_iff.mp ec
    exact (((hd.addComment _ none).nodes _ (.ce _ _) (noBlocks _)).nodes _ (.cs _ _) (noBlocks _) :)
  -- no comment, no new text, no anchor, no paragraph at the anchor
  · exact hd
  · exact hd
  · exact hd
  · exact hd
  -- new text: `trackInsert`, then the `w:ins` at the anchor, then the comment from the first deletion to the `w:ins`
  · next e =>
    have hI := hd.step_trackInsert e
    exact hI.reach.para _ (fun _ => ⟨rfl, rfl⟩) (ParaRevs_same _ _ hI.blocks)
  · next ec _ _ _ _ e =>
    have hI := hd.step_trackInsert e
    obtain ⟨rfl, rfl⟩ := Prod.ext_iff.mp ec
    exact ((hI.reach.addComment _ none).nodes _ ((Adds.insert _ (hI.node _ rfl)).comp (.attach _ _ _)) hI.blocks :)
  · next ec _ _ _ _ _ e =>
    have hI := hd.step_trackInsert e
    obtain ⟨rfl, rfl⟩ := Prod.ext_iff.mp ec
    exact (((hI.reach.addComment _ none).nodes _ ((Adds.insert _ (hI.node _ rfl)).comp (.ce _ _)) hI.blocks).nodes _
      (.cs _ _) (noBlocks _) :)
  · next ec _ e =>
    have hI := hd.step_trackInsert e
    obtain ⟨rfl, rfl⟩ := Prod.ext_iff.mp ec
    exact ((hI.reach.addComment _ none).nodes _ ((Adds.insert _ (hI.node _ rfl)).comp (.attach _ _ _)) hI.blocks :)
  · next e =>
    have hI := hd.step_trackInsert e
    exact (hI.reach.nodes _ (.insert _ (hI.node _ rfl)) hI.blocks :)

theorem Reach.step_nestedIns {s0 s : Sess} (h : Reach s0 s) {text : Str} {style : Option Run} {comment : Option Str}
    {r : Sess × Option Node × List Block} (e : nestedIns s text style comment = r) : Inserted s0 r := by
  subst e
  unfold nestedIns
  split
  · exact Inserted.inline h _
  · exact h.step_trackInsert rfl

theorem Reach.step_nestedReplace {s0 s : Sess} (h : Reach s0 s) (pi : Nat) (insId newText : Str) (comment : Option Str) :
    Reach s0 (nestedReplace s pi insId newText comment).1 := by
  have hr : Reach s0 { s with doc := modPart s.doc pi fun bs => (rejectChange insId bs).1 } :=
    h.mapPart pi (revs_rejectN insId)
  fun_cases nestedReplace s pi insId newText comment
  · exact h
  · exact hr
  · next e => exact (hr.step_nestedIns e).reach
  · next ec e =>
    have hI := hr.step_nestedIns e
    obtain ⟨rfl, rfl⟩ := Prod.ext_iff.mp ec
    exact ((hI.reach.addComment _ none).nodes _ ((Adds.insert _ (hI.node _ rfl)).comp (.attach _ _ _)) (noBlocks _) :)
  · next e =>
    have hI := hr.step_nestedIns e
    exact (hI.reach.nodes _ (.insert _ (hI.node _ rfl)) (noBlocks _) :)

theorem Indexed.reach {s0 s : Sess} {c : Option Str} {r : Sess × Bool} (ho : Indexed s c r) (h : Reach s0 s) :
    Reach s0 r.1 := by
  cases ho with
  | idle hf => exact h.frame hf
  | nested => exact h.step_nestedReplace ..
  | insertion _ _ _ _ hf => exact (h.frame hf).step_placeInsertion ..
  | replace _ _ _ _ hf => exact (h.frame hf).step_replaceTargets ..

theorem Reach_applyEdits (s : Sess) (edits : List HEdit) : Reach s (Doc.applyEdits s edits).1 :=
  applyEdits_induction (fun _ _ _ ho h => ho.reach h) .start edits

theorem Reach_applyEditsIndexed (s : Sess) (edits : List IEdit) : Reach s (applyEditsIndexed s edits).1 :=
  applyEditsIndexedFull_induction (fun _ _ _ ho h => ho.reach h) .start edits

theorem Reach.step_applyAction {s0 s : Sess} (h : Reach s0 s) (a : Action) : Reach s0 (s.applyAction a).1 := by
  fun_cases Sess.applyAction s a
  · next e _ =>
    obtain ⟨rfl, rfl⟩ := Prod.ext_iff.mp e
    exact h.setBody (skel_mapNodesBlocks _ _) (revs_mapNodesBlocks _ (revs_acceptN _) _)
  · exact h
  · next e _ =>
    obtain ⟨rfl, rfl⟩ := Prod.ext_iff.mp e
    exact h.setBody (skel_mapNodesBlocks _ _) (revs_mapNodesBlocks _ (revs_rejectN _) _)
  · exact h
  · next e =>
    obtain ⟨rfl, rfl⟩ := Prod.ext_iff.mp e
    exact (h.addComment _ _).setBody (anchorReply_skel _ _ _) (revs_anchorReply _ _ _)
  · exact h

theorem Reach_applyActions (s : Sess) (acts : List Action) : Reach s (s.applyActions acts).1 := by
  refine List.foldlRecOn (motive := fun acc : Sess × Nat × Nat => Reach s acc.1) acts _ .start fun acc ha a _ => ?_
  simp only
  split <;> exact ha.step_applyAction a

theorem Reach_acceptAll (s : Sess) : Reach s s.acceptAllRevisions :=
  Reach.start.setBody (skel_mapNodesBlocks _ _) (revs_mapNodesBlocks _ revs_acceptAllN _)

/-- Every revision mark in every story after a batch — whatever was applied, skipped or matched fuzzily — is one of
the marks the document had when the session started (same id, author, date) or a mark of this session: its author
and date are the session's and its id was handed out after the ids scanned at session start. -/
theorem RevOk_applyEdits (s : Sess) (edits : List HEdit) : RevOk s (Doc.applyEdits s edits).1 :=
  (Reach_applyEdits s edits).revOk

/-- Whatever a batch does — applied, skipped, matched fuzzily, inside someone else's insertion — every story
keeps its skeleton (paragraph properties, tables with their properties, rows, cells, other blocks, all in
order; paragraphs are only ever added), every existing comment entry stays where it is in all four comment
lists, and the session's author, date and counters only move forward. -/
theorem Grows_applyEdits (s : Sess) (edits : List HEdit) : Grows s (Doc.applyEdits s edits).1 :=
  (RevOk_applyEdits s edits).grows

theorem Grows_foldl_trackDelete (ts : List RunRef) : ∀ s : Sess, Grows s (ts.foldl (fun acc t => (trackDelete acc t).1) s) :=
  fun s => (Reach.step_foldl_trackDelete ts s .start).revOk.grows

end Adeu.Doc
