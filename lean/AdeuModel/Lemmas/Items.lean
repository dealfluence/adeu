import AdeuModel.Model.Doc
/-
The item stream of a paragraph (`items` / `itemsFrom` / `processRun` of Model/Doc.lean): a run contributes itself and
reference events, nothing that opens or closes a mark (`processRun_quiet`, `processRun_plain`), so children without
marks give a stream without marks (`itemsFrom_quiet`); the revision events of any child list open and close without
nesting (`WF_itemsFrom`).
-/
namespace Adeu.Doc
open Adeu

/-- items that open or close nothing: runs and reference events -/
def quietItem : Item → Bool
  | .run _ _ => true
  | .ev .ref _ _ => true
  | _ => false

theorem processRun_quiet (st : FieldSt) (r : Run) (loc : Loc) : ∀ it ∈ (processRun st r loc).2, quietItem it = true := by
  unfold processRun
  extract_lets refs st1 st2
  intro it hit
  rcases List.mem_append.mp hit with hit | hit
  · obtain ⟨a, _, ha⟩ := List.mem_filterMap.mp hit
    cases a with
    | cref id =>
      dsimp only at ha
      by_cases he : id.isEmpty = true
      · rw [if_pos he] at ha; cases ha
      · rw [if_neg he] at ha; cases ha; rfl
    | _ => cases ha
  · by_cases hh : st2.hide = true
    · rw [if_pos hh] at hit; cases hit
    · rw [if_neg hh, List.mem_singleton] at hit; rw [hit]; rfl

/-- a paragraph child that opens or closes nothing: no revision mark, no comment range mark -/
def quietNode : Node → Bool
  | .run _ | .proof _ | .hl _ _ | .other _ => true
  | _ => false

theorem itemsFrom_quiet : ∀ (nodes : List Node) (st : FieldSt) (k : Nat), (∀ n ∈ nodes, quietNode n = true) →
    ∀ it ∈ itemsFrom st nodes k, quietItem it = true := by
  intro nodes
  induction nodes with
  | nil => intro st k _ it hit; simp [itemsFrom] at hit
  | cons n rest ih =>
    intro st k h it hit
    simp only [itemsFrom, List.mem_append] at hit
    rcases hit with hit | hit
    · have hn := h n (by simp)
      cases n <;> simp [quietNode] at hn
      · exact processRun_quiet _ _ _ it (by simpa [nodeItems] using hit)
      · simp [nodeItems] at hit
      · simp [nodeItems] at hit
      · simp [nodeItems] at hit
    · exact ih _ _ (fun x hx => h x (by simp [hx])) it hit

/-- an item that opens or closes no revision mark: a run, a comment range mark or a reference -/
def Item.plain : Item → Bool
  | .ev .insStart _ _ | .ev .insEnd _ _ | .ev .delStart _ _ | .ev .delEnd _ _ => false
  | _ => true

theorem Item.plain_of_quiet {it : Item} (h : quietItem it = true) : it.plain = true := by
  cases it with
  | run => rfl
  | ev ty => cases ty <;> first | rfl | cases h

/-- Well-formed event stream: revision marks open and close without nesting.
State: the id of the open insertion / deletion. -/
def WF : Option Str → Option Str → List Item → Prop
  | _, _, [] => True
  | i, d, .run _ _ :: r => WF i d r
  | i, d, .ev ty id _ :: r =>
    match ty with
    | .insStart => i = none ∧ WF (some id) d r
    | .insEnd => i = some id ∧ WF none d r
    | .delStart => d = none ∧ WF i (some id) r
    | .delEnd => d = some id ∧ WF i none r
    | _ => WF i d r

theorem WF_append_plain {a : List Item} (ha : a.all Item.plain = true) {i d : Option Str} {b : List Item}
    (hb : WF i d b) : WF i d (a ++ b) := by
  induction a with
  | nil => exact hb
  | cons x r ih =>
    rw [List.all_cons, Bool.and_eq_true] at ha
    cases x with
    | run r' l => exact ih ha.2
    -- a plain event leaves the open marks alone; the four others are excluded by `ha`
    | ev ty id au => cases ty <;> first | exact ih ha.2 | cases ha.1

theorem processRun_plain (st : FieldSt) (r : Run) (loc : Loc) : (processRun st r loc).2.all Item.plain = true :=
  List.all_eq_true.mpr fun it h => Item.plain_of_quiet (processRun_quiet st r loc it h)

theorem insItems_plain (ni : Nat) : ∀ (ch : List InsChild) (st : FieldSt) (k : Nat),
    (insItems st ni ch k).2.all Item.plain = true := by
  intro ch
  induction ch with
  | nil => intro st k; rfl
  | cons c rest ih =>
    intro st k
    cases c <;> simp only [insItems, List.all_append, List.all_cons, processRun_plain, ih, Item.plain, Bool.and_self]

theorem WF_itemsFrom : ∀ (ns : List Node) (st : FieldSt) (ni : Nat), WF none none (itemsFrom st ns ni) := by
  intro ns
  induction ns with
  | nil => intro st ni; trivial
  | cons n rest ih =>
    intro st ni
    simp only [itemsFrom]
    cases n with
    | run r => exact WF_append_plain (processRun_plain st r _) (ih _ _)
    | ins rev ch =>
      simp only [nodeItems, List.cons_append, WF, List.append_assoc, true_and]
      refine WF_append_plain (insItems_plain ni ch st 0) ?_
      exact And.intro rfl (ih _ _)
    | del rev runs =>
      simp only [nodeItems, List.cons_append, WF, List.append_assoc, true_and]
      refine WF_append_plain ?_ (And.intro rfl (ih _ _))
      simp only [List.all_map, List.all_eq_true]; exact fun _ _ => rfl
    -- the other children give comment range marks or nothing
    | _ => exact ih _ _

end Adeu.Doc
