import AdeuModel.Lemmas.Revs
namespace Adeu.Doc
open Adeu

/-- a mark created by the session that started as `s0`, seen from `s`: the session's author and date, an id handed
out after `s0` -/
def Fresh (s0 s : Sess) (r : Rev) : Prop :=
  r.author = some s0.author ∧ r.date = some s0.date ∧ ∃ k, s0.nextRev < k ∧ k ≤ s.nextRev ∧ r.id = natStr k

theorem Fresh.mono {s0 s s' : Sess} {r : Rev} (h : Fresh s0 s r) (hle : s.nextRev ≤ s'.nextRev) : Fresh s0 s' r := by
  obtain ⟨h1, h2, k, h3, h4, h5⟩ := h
  exact ⟨h1, h2, k, h3, Nat.le_trans h4 hle, h5⟩

/-- since `s0`, the session has only grown the document (`Grows`) and every mark of every story is one of `s0`'s or
a fresh one of this session -/
structure RevOk (s0 s : Sess) : Prop where
  grows : Grows s0 s
  revs : ∀ x ∈ revsDoc s.doc, x ∈ revsDoc s0.doc ∨ Fresh s0 s x

theorem RevOk.refl (s : Sess) : RevOk s s := ⟨Grows.refl s, fun _ h => Or.inl h⟩

theorem RevOk.step_still {s0 s s' : Sess} (h : RevOk s0 s) (hs : Still s s')
    (hr : OnlyNew (Fresh s0 s') (revsDoc s.doc) (revsDoc s'.doc)) : RevOk s0 s' :=
  ⟨h.grows.trans hs.grows, fun x hx => (hr x hx).elim (fun hx => (h.revs x hx).imp_right (·.mono hs.nextRev)) .inr⟩

/-- the same for a step that sets the document (`Fresh s0 { s with doc := d }` is `Fresh s0 s`).  Stated with `d` a variable:
with a term in its place, `{ s with doc := term }.doc` makes the unifier unfold the term (slow for `modPart`) -/
theorem RevOk.step_doc {s0 s : Sess} (h : RevOk s0 s) {d : Document} (hs : Still s { s with doc := d })
    (hr : OnlyNew (Fresh s0 s) (revsDoc s.doc) (revsDoc d)) : RevOk s0 { s with doc := d } :=
  h.step_still hs hr

theorem RevOk.step_newRev {s0 s : Sess} (h : RevOk s0 s) : RevOk s0 s.newRev.1 ∧ Fresh s0 s.newRev.1 s.newRev.2 :=
  ⟨h.step_still (Still_newRev s) (.refl _),
   ⟨congrArg some h.grows.author, congrArg some h.grows.date, s.nextRev + 1, Nat.lt_succ_of_le h.grows.nextRev, Nat.le_refl _,
    (newRev_attrib s).2.2.1⟩⟩

theorem RevOk.step_addComment {s0 s : Sess} (h : RevOk s0 s) (text : Str) (parent : Option Str) :
    RevOk s0 (s.addComment text parent).1 :=
  ⟨h.grows.trans (Grows_addComment s text parent), h.revs⟩

theorem RevOk.step_mapBody {s0 s : Sess} (h : RevOk s0 s) (g : List Node → List Node)
    (hg : ∀ ns x, x ∈ revsNodes (g ns) → x ∈ revsNodes ns) :
    RevOk s0 { s with doc := { s.doc with body := mapNodesBlocks g s.doc.body } } :=
  h.step_doc (Still_setBody s _ (skel_mapNodesBlocks g _))
    fun x hx => .inl (revsDoc_setBody s.doc _ (revs_mapNodesBlocks g hg _) x hx)

theorem RevOk.step_mapPart {s0 s : Sess} (h : RevOk s0 s) (pi : Nat) (g : List Node → List Node)
    (hg : ∀ ns x, x ∈ revsNodes (g ns) → x ∈ revsNodes ns) :
    RevOk s0 { s with doc := modPart s.doc pi (mapNodesBlocks g) } :=
  h.step_doc (Still_mapPart s pi g) (revs_mapPart s.doc pi hg)

/-- what `track_insert` hands back (session, inline `w:ins`, new paragraphs): the session is fine and every mark of the
node and of the paragraphs was handed out by this session -/
structure InsertOk (s0 : Sess) (r : Sess × Option Node × List Block) : Prop where
  ok : RevOk s0 r.1
  node : ∀ n, r.2.1 = some n → ∀ x ∈ revsNodes [n], Fresh s0 r.1 x
  blocks : ∀ x ∈ revsBlocks r.2.2, Fresh s0 r.1 x

theorem InsertOk.nothing {s0 s : Sess} (h : RevOk s0 s) : InsertOk s0 (s, none, []) :=
  ⟨h, fun _ hn => (nomatch hn), noBlocks _⟩

theorem InsertOk.inline {s0 s : Sess} (h : RevOk s0 s) (ch : List InsChild) :
    InsertOk s0 (s.newRev.1, some (Node.ins s.newRev.2 ch), []) := by
  refine ⟨h.step_newRev.1, fun n hn x hx => ?_, noBlocks _⟩
  cases hn
  rw [revsNodes_insNode, List.mem_singleton] at hx
  subst hx
  exact h.step_newRev.2

end Adeu.Doc
