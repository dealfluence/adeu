import AdeuModel.Model.Doc
/-
`splitNl`, `joinWith` and `applyFormatting` (Model/Doc.lean): the equations the proofs about the reader and about the
writer's index both use.
-/
namespace Adeu.Doc
open Adeu

theorem joinWith_cons_cons (sep x y : Str) (r : List Str) :
    joinWith sep (x :: y :: r) = x ++ sep ++ joinWith sep (y :: r) := rfl

theorem joinWith_nonempty_of_two (sep : Str) (hs : sep ≠ []) : ∀ l : List Str, 2 ≤ l.length → joinWith sep l ≠ []
  | x :: y :: r, _ => by simp [joinWith_cons_cons, hs]
  | [_], h => by simp at h
  | [], h => by simp at h

theorem joinWith_ne_nil (sep : Str) : ∀ (L : List Str) (l : Str), l ∈ L → l ≠ [] → joinWith sep L ≠ []
  | [], _, h, _ => by cases h
  | [x], l, h, hl => by
    have : l = x := by simpa using h
    subst this; simpa [joinWith] using hl
  | x :: y :: r, l, h, hl => by
    simp only [joinWith]
    rcases List.mem_cons.1 h with e | e
    · subst e; simp [hl]
    · have := joinWith_ne_nil sep (y :: r) l e hl
      simp [this]

/-- What a loop that writes `sep` before every part but the very first produces from the round on in which `em`
parts have been written: the parts joined by `sep`, with `sep` in front as well unless this is the start. -/
def joinFrom (sep : Str) (em : Nat) (l : List Str) : Str := (if em > 0 ∧ l ≠ [] then sep else []) ++ joinWith sep l

theorem joinFrom_nil (sep : Str) (em : Nat) : joinFrom sep em [] = [] := by simp [joinFrom, joinWith]

theorem joinFrom_cons (sep : Str) (em : Nat) (x : Str) (l : List Str) :
    joinFrom sep em (x :: l) = (if em > 0 then sep else []) ++ x ++ joinFrom sep (em + 1) l := by
  cases l <;> simp [joinFrom, joinWith]

theorem joinFrom_zero (sep : Str) (l : List Str) : joinFrom sep 0 l = joinWith sep l := by simp [joinFrom]

theorem splitNl_ne_nil (t : Str) : splitNl t ≠ [] := by
  cases t with
  | nil => simp [splitNl]
  | cons c r => rw [splitNl]; split <;> (try split) <;> simp

/-- `splitNl` by cases on the first character, without the unreachable branch of its definition -/
theorem splitNl_cons (c : Char) (r : Str) :
    splitNl (c :: r) = if c = '\n' then [] :: splitNl r else (c :: (splitNl r).headD []) :: (splitNl r).tail := by
  rw [splitNl]
  split
  · rename_i h; exact absurd h (splitNl_ne_nil r)
  · rename_i h; rw [h]; rfl

theorem splitNl_length (t : Str) : (splitNl t).length = t.count '\n' + 1 := by
  induction t with
  | nil => rfl
  | cons c r ih =>
    obtain ⟨hd, tl, hs⟩ := List.exists_cons_of_ne_nil (splitNl_ne_nil r)
    rw [splitNl_cons, hs]
    rw [hs] at ih
    by_cases hc : c = '\n' <;> simp [hc] at ih ⊢ <;> omega

theorem splitNl_noNl_self (a : Str) (h : '\n' ∉ a) : splitNl a = [a] := by
  induction a with
  | nil => rfl
  | cons c r ih =>
    rw [List.mem_cons, not_or] at h
    rw [splitNl_cons, if_neg (Ne.symm h.1), ih h.2]; rfl

theorem splitNl_append (a b : Str) (h : '\n' ∉ a) : splitNl (a ++ '\n' :: b) = a :: splitNl b := by
  induction a with
  | nil => rw [List.nil_append, splitNl_cons, if_pos rfl]
  | cons c r ih =>
    rw [List.mem_cons, not_or] at h
    rw [List.cons_append, splitNl_cons, if_neg (Ne.symm h.1), ih h.2]; rfl

theorem splitNl_joinWith : ∀ parts : List Str, parts ≠ [] → (∀ x ∈ parts, '\n' ∉ x) →
    splitNl (joinWith ['\n'] parts) = parts
  | [], h, _ => absurd rfl h
  | [x], _, hx => splitNl_noNl_self x (hx x (List.mem_singleton.mpr rfl))
  | x :: y :: r, _, hx => by
    have ih := splitNl_joinWith (y :: r) (List.cons_ne_nil _ _) (fun z hz => hx z (List.mem_cons_of_mem _ hz))
    rw [joinWith_cons_cons, List.append_assoc, List.singleton_append, splitNl_append x _ (hx x List.mem_cons_self), ih]

theorem splitNl_parts_noNl (t : Str) : ∀ x ∈ splitNl t, '\n' ∉ x := by
  induction t with
  | nil => intro x hx; rw [List.mem_singleton.mp hx]; exact List.not_mem_nil
  | cons c r ih =>
    obtain ⟨hd, tl, hs⟩ := List.exists_cons_of_ne_nil (splitNl_ne_nil r)
    rw [splitNl_cons, hs]
    rw [hs, List.forall_mem_cons] at ih
    split
    · exact List.forall_mem_cons.mpr ⟨List.not_mem_nil, List.forall_mem_cons.mpr ih⟩
    · rename_i hc
      exact List.forall_mem_cons.mpr ⟨fun hm => (List.mem_cons.mp hm).elim (fun e => hc e.symm) ih.1, ih.2⟩

/-- `apply_formatting_to_segments` on one line of a run's text: markers around a non-empty part only -/
def wrapPart (pre suf : Str) (p : Str) : Str := if p.isEmpty then [] else pre ++ p ++ suf

theorem wrapPart_nil (p : Str) : wrapPart [] [] p = p := by
  unfold wrapPart
  split
  · rename_i h; exact (List.isEmpty_iff.mp h).symm
  · exact List.append_nil _

/-- `applyFormatting` in two cases instead of four: without markers the text, with markers its lines wrapped -/
theorem applyFormatting_eq (t pre suf : Str) :
    applyFormatting t pre suf =
      if pre.isEmpty && suf.isEmpty then t else joinWith ['\n'] ((splitNl t).map (wrapPart pre suf)) := by
  unfold applyFormatting
  by_cases hm : (pre.isEmpty && suf.isEmpty) = true
  · rw [if_pos hm, if_pos hm]
  · rw [if_neg hm, if_neg hm]
    by_cases ht : t.isEmpty = true
    · rw [if_pos ht, List.isEmpty_iff.mp ht]; rfl
    · rw [if_neg ht]
      by_cases hn : (!t.contains '\n') = true
      · have hn' : '\n' ∉ t := by simpa using hn
        rw [if_pos hn, splitNl_noNl_self t hn', List.map_cons, List.map_nil, joinWith, wrapPart, if_neg ht]
      · rw [if_neg hn]; rfl

theorem applyFormatting_isEmpty (t pre suf : Str) : (applyFormatting t pre suf).isEmpty = t.isEmpty := by
  rw [applyFormatting_eq]
  split
  · rfl
  · by_cases hn : '\n' ∈ t
    · -- two lines or more: the join holds a newline
      have hl : 2 ≤ ((splitNl t).map (wrapPart pre suf)).length := by
        rw [List.length_map, splitNl_length]; have := List.count_pos_iff.mpr hn; omega
      rw [List.isEmpty_eq_false_iff.mpr (joinWith_nonempty_of_two ['\n'] (List.cons_ne_nil _ _) _ hl),
        List.isEmpty_eq_false_iff.mpr (List.ne_nil_of_mem hn)]
    · rw [splitNl_noNl_self t hn]
      cases t <;> simp [joinWith, wrapPart]

/-- Markers never enclose a line break: the lines of the formatted text are the wrapped lines of the text. -/
theorem splitNl_applyFormatting (t pre suf : Str) (hp : '\n' ∉ pre) (hs : '\n' ∉ suf) :
    splitNl (applyFormatting t pre suf) = (splitNl t).map (wrapPart pre suf) := by
  rw [applyFormatting_eq]
  split
  · rename_i hm
    simp only [Bool.and_eq_true, List.isEmpty_iff] at hm
    rw [hm.1, hm.2, funext wrapPart_nil, List.map_id']
  · apply splitNl_joinWith
    · simpa using splitNl_ne_nil t
    · intro x hx
      obtain ⟨p, hp', rfl⟩ := List.mem_map.mp hx
      unfold wrapPart; split
      · exact List.not_mem_nil
      · simp [hp, hs, splitNl_parts_noNl t p hp']

end Adeu.Doc
