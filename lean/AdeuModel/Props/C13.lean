import AdeuModel.Lemmas.Diff
/-
C13 — computed diffs are exact, non-overlapping edit scripts.

`ds` is the decoded output of diff-match-patch (a parameter).  Its contract — `src ds` is the first
text, `dst ds` the second, entries are concatenations of whole tokens — is monitored by the harness
on every observed call.
-/
namespace Adeu.Props.C13
open Adeu Adeu.Diff

/-- Replacing every target by its new text transforms the first text into the second — for every
diff list (no normal-form hypothesis: consecutive deletions are merged by the loop). -/
theorem C13_apply (ds : DiffList) :
    applyEdits (src ds) (editsOfDiffs ds) = dst ds := by
  exact (editsOfDiffs_tiles ds).applyFrom_eq

/-- Edits are in coordinates of the first text, sorted and pairwise non-overlapping. -/
theorem C13_disjoint_sorted (ds : DiffList) : SortedFrom 0 (editsOfDiffs ds) :=
  (editsOfDiffs_tiles ds).sorted

/-- Each edit's target equals the first text at the edit's position. -/
theorem C13_target_at_index (ds : DiffList) : TargetsAt (src ds) (editsOfDiffs ds) :=
  (editsOfDiffs_tiles ds).targetsAt rfl

/-- Identical texts (diff-match-patch returns only equalities) give no edits. -/
theorem C13_equal_nil (ds : DiffList) (h : ∀ d ∈ ds, d.1 = Op.eq) : editsOfDiffs ds = [] := by
  unfold editsOfDiffs
  generalize 0 = cur
  induction ds generalizing cur with
  | nil => rfl
  | cons x ds ih =>
    obtain ⟨o, t⟩ := x
    obtain rfl : o = Op.eq := h (o, t) List.mem_cons_self
    exact ih (fun d hd => h d (List.mem_cons_of_mem _ hd)) _

/-- The differing part of every edit consists of whole tokens of the two token sequences. -/
theorem C13_token_aligned (tds : TokDiffList) :
    ∀ e ∈ editsOfDiffs (ofTok tds), Aligned (srcTok tds) (dstTok tds) e :=
  fun e he => alignedFrom_zero.mp ((go_aligned tds).1 0 e he)

/-! The same clauses for the whole pipeline after diff-match-patch (`ds` is its raw decoded output;
`_split_at_separators` runs first): separator splitting preserves both texts. -/
theorem C13_apply_raw (ds : DiffList) : applyEdits (src ds) (editsOfRaw ds) = dst ds :=
  (editsOfRaw_tiles ds).applyFrom_eq

theorem C13_disjoint_sorted_raw (ds : DiffList) : SortedFrom 0 (editsOfRaw ds) :=
  (editsOfRaw_tiles ds).sorted

theorem C13_target_at_index_raw (ds : DiffList) : TargetsAt (src ds) (editsOfRaw ds) :=
  (editsOfRaw_tiles ds).targetsAt rfl

theorem C13_equal_nil_raw (ds : DiffList) (h : ∀ d ∈ ds, d.1 = Op.eq) : editsOfRaw ds = [] := by
  have hs : splitDiffs ds = ds := by
    induction ds with
    | nil => rfl
    | cons x ds ih =>
      obtain ⟨o, t⟩ := x
      have ho : o = Op.eq := h (o, t) (by simp)
      subst ho
      have := ih (fun d hd => h d (by simp [hd]))
      simp [splitDiffs, this]
  unfold editsOfRaw
  rw [hs]
  exact C13_equal_nil ds h

/-- the split: 'end.\n\nStart' → 'END.\n\nBEGIN' becomes one change per paragraph -/
example : splitDiffs [(.eq, "The ".toList), (.del, "end.\n\nStart".toList), (.ins, "END.\n\nBEGIN".toList)] =
    [(.eq, "The ".toList), (.del, "end".toList), (.ins, "END".toList), (.eq, ".".toList), (.eq, "\n\n".toList),
     (.del, "Start".toList), (.ins, "BEGIN".toList)] := by decide +kernel

/-! Non-vacuity: a concrete diff list meets the hypotheses and exercises every branch. -/
def sample : DiffList :=
  [(.ins, "New ".toList), (.eq, "Hello big ".toList), (.del, "old ".toList),
   (.ins, "new ".toList), (.eq, "world".toList), (.ins, "!".toList), (.eq, " x ".toList),
   (.del, "go".toList), (.del, "ne".toList)]

example : applyEdits (src sample) (editsOfDiffs sample) = dst sample := by decide +kernel
example : (editsOfDiffs sample).length = 4 := by decide +kernel

/-- The pinned tree (4fd4704) violated the property: `Hello world → Hello big world` produced an
edit whose target is not at its index, and replacing the targets does not give the second text.
(Repaired in /repo by the `fix:` commit recorded in known_findings.json.) -/
def pinnedWitness : DiffList :=
  [(.eq, "Hello ".toList), (.ins, "big ".toList), (.eq, "world".toList)]

theorem C13_pinned_counterexample :
    ¬ TargetsAt (src pinnedWitness) (goPinned (src pinnedWitness) pinnedWitness 0 none) := by
  -- the edit `⟨6, "Hello ", "Hello big "⟩`: its index is the end of its target
  unfold TargetsAt
  decide +kernel

end Adeu.Props.C13
