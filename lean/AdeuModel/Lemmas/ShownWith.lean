import AdeuModel.Lemmas.MetaIds
import AdeuModel.Lemmas.ExtractRaw
import AdeuModel.Lemmas.Text
import AdeuModel.Model.ShownShape
/-
Layers D + E — a comment attached to a change is shown with that change.

What the engine writes for a commented edit (`attachCommentNodes`, C10_anchor_encloses) is a range start in
front of the marks of the edit and the range end + reference run behind them.  Read back by the reader model,
a run inside those marks contributes a snapshot in which both the change's id and the comment's id are open
(`shown_in_range`, for whatever marks the range encloses) - so they are rendered in one metadata block
(`rawSegs_notes`, `metaGroups_flatten`), and that block has a line `[Com:id] …` for the comment
(`shown_snapshot_rendered`).
-/
namespace Adeu.Doc
open Adeu Adeu.Markup

theorem itemsFrom_append (st : FieldSt) : ∀ (a b : List Node) (k : Nat),
    itemsFrom st (a ++ b) k = itemsFrom st a k ++ itemsFrom (stAfter st a k) b (k + a.length) := by
  intro a
  induction a generalizing st with
  | nil => intro b k; simp [itemsFrom, stAfter]
  | cons n rest ih =>
    intro b k
    simp only [List.cons_append, itemsFrom, stAfter, ih, List.append_assoc, List.length_cons]
    rw [Nat.add_right_comm k 1, Nat.add_assoc]

/-- the open marks after a list of items -/
def marksAfter : RevMap → RevMap → List Str → List Item → RevMap × RevMap × List Str
  | i, d, c, [] => (i, d, c)
  | i, d, c, .run _ _ :: rest => marksAfter i d c rest
  | i, d, c, .ev ty id a :: rest =>
    match ty with
    | .start => marksAfter i d (setAdd id c) rest
    | .end_ => marksAfter i d (setDel id c) rest
    | .insStart => marksAfter (revSet id a i) d c rest
    | .insEnd => marksAfter (revDel id i) d c rest
    | .delStart => marksAfter i (revSet id a d) c rest
    | .delEnd => marksAfter i (revDel id d) c rest
    | .ref => marksAfter i d c rest

theorem snapSpec_append : ∀ (a b : List Item) (i d : RevMap) (c : List Str),
    snapSpec i d c (a ++ b) =
      snapSpec i d c a ++ snapSpec (marksAfter i d c a).1 (marksAfter i d c a).2.1 (marksAfter i d c a).2.2 b := by
  intro a
  induction a with
  | nil => intro b i d c; simp [snapSpec, marksAfter]
  | cons it rest ih =>
    intro b i d c
    cases it with
    | run r loc => simp [snapSpec, marksAfter, ih, List.append_assoc]
    | ev ty id au => cases ty <;> simp [snapSpec, marksAfter, ih]

theorem marksAfter_runs (i d : RevMap) (c : List Str) (k : Nat) : ∀ (runs : List Run) (j : Nat),
    marksAfter i d c ((runs.zipIdx j).map fun (r, q) => Item.run r ⟨k, some q⟩) = (i, d, c) := by
  intro runs
  induction runs with
  | nil => intro j; rfl
  | cons r rest ih => intro j; simp only [List.zipIdx_cons, List.map_cons, marksAfter]; exact ih (j + 1)

theorem mem_setAdd (k : Str) (s : List Str) : k ∈ setAdd k s := by
  unfold setAdd; split
  · rename_i h; simpa using h
  · simp

theorem mem_revSet (k : Str) (a : Option Str) : ∀ m : RevMap, k ∈ (revSet k a m).map (·.1)
  | [] => by simp [revSet]
  | (k', a') :: r => by
    simp only [revSet]
    split
    · simp
    · simp only [List.map_cons, List.mem_cons]; exact Or.inr (mem_revSet k a r)

theorem isT_of_all {l : List Atom} (h : l.all isT = true) {a : Atom} (ha : a ∈ l) : ∃ s, a = .t s := by
  have := List.all_eq_true.mp h a ha
  cases a <;> simp [isT] at this
  exact ⟨_, rfl⟩

theorem foldl_fieldStep_of_isT (l : List Atom) (s : FieldSt) (h : l.all isT = true) : l.foldl fieldStep s = s :=
  foldl_fixed (fun s a ha => by obtain ⟨_, rfl⟩ := isT_of_all h ha; rfl) s

theorem refs_plain : ∀ (l : List Atom), l.all isT = true →
    (l.filterMap fun | .cref id => if id.isEmpty then none else some (Item.ev .ref id none) | _ => none) = [] :=
  fun _ h => List.filterMap_eq_nil_iff.mpr fun a ha => by obtain ⟨_, rfl⟩ := isT_of_all h ha; rfl

/-- a run of plain text outside any complex field is emitted as it is -/
theorem processRun_textRun (st : FieldSt) (r : Run) (loc : Loc)
    (hst : st.hide = false) (hr : r.ch.all isT = true) :
    processRun st r loc = ((processRun st r loc).1, [Item.run r loc]) := by
  refine Prod.ext rfl (Eq.trans (congrArg (· ++ _) (refs_plain r.ch hr)) ?_)
  simp only [List.nil_append, foldl_fieldStep_of_isT r.ch st hr]
  by_cases hf : st.inField = true <;> simp [hf, hst]

/-- **Shown with the change.**  What `attachCommentNodes` leaves in a paragraph is `… ⟨range start cid⟩ mid ⟨range end
cid⟩ ⟨reference⟩ …`, `mid` being the marks of the edit (C10_anchor_encloses).  Whatever `mid` is: if, read with any
marks open, it contributes a snapshot of which `P` holds and that still has the comment ranges open it was read with,
then the reader's metadata is built from a snapshot in which `cid` is open and of which `P` holds - the marks that
`pre` leaves open are whatever they are, the range start adds `cid` (`metaGroups_flatten`: every text-carrying run
contributes the snapshot of the marks open at it). -/
theorem shown_in_range (cm : CMap) (p : Para) (pre mid tail : List Node) (cid : Str)
    (hn : p.nodes = pre ++ (.cs cid :: (mid ++ tail))) (P : Snap → Prop)
    (h : ∀ i d c k, ∃ snap ∈ snapSpec i d c (itemsFrom (stAfter {} pre 0) mid k), snap.comments = c ∧ P snap) :
    ∃ snap ∈ (metaGroups cm p).flatten, cid ∈ snap.comments ∧ P snap := by
  rw [metaGroups_flatten]
  unfold items
  rw [hn, itemsFrom_append, snapSpec_append]
  generalize marksAfter [] [] [] (itemsFrom {} pre 0) = m
  obtain ⟨snap, hs, hc, hP⟩ := h m.1 m.2.1 (setAdd cid m.2.2) (0 + pre.length + 1)
  refine ⟨snap, List.mem_append_right _ ?_, hc ▸ mem_setAdd cid _, hP⟩
  -- the range start opens `cid`; the items of `mid` come next
  show snap ∈ snapSpec m.1 m.2.1 (setAdd cid m.2.2) (itemsFrom (stAfter {} pre 0) (mid ++ tail) (0 + pre.length + 1))
  rw [itemsFrom_append, snapSpec_append]
  exact List.mem_append_left _ hs

/-- **End to end.**  Let the metadata of paragraph `p` be built from a snapshot in which comment `cid` is open (for the
shapes the engine leaves around a commented insertion, deletion or replacement: C10_comment_shown_with_*, with `P` saying
that the change is open in the same snapshot) and let the comment map know `cid` (C10_new_comment_read_back).  Then the
raw view of `p` has a metadata block `{>>…<<}` that is `joinWith "\n"` of change lines and comment lines, among them a
line `[Com:cid] …` - and that block is built from that snapshot, so its change lines hold the `[Chg:id]` of the change
too (C04_block_lists_open_changes_once). -/
theorem shown_snapshot_rendered (cm : CMap) (p : Para) (cid : Str) (d : CData) (hd : cmGet cm cid = some d)
    (P : Snap → Prop) (h : ∃ snap ∈ (metaGroups cm p).flatten, cid ∈ snap.comments ∧ P snap) :
    ∃ states : List Snap, metaBlock cm states ∈ notesOf (rawSegs cm p) ∧
      (∃ snap ∈ states, cid ∈ snap.comments ∧ P snap) ∧
      ∃ l ∈ (states.foldl (metaStep cm) ([], [], [])).2.1, comHead cid <+: l := by
  obtain ⟨snap, hs, hc, hi⟩ := h
  obtain ⟨g, hg, hsg⟩ := List.mem_flatten.1 hs
  obtain ⟨l, hl, hp⟩ := comLines_lists cm g snap hsg cid hc d hd
  refine ⟨g, ?_, ⟨snap, hsg, hc, hi⟩, l, (metaFold_lines cm g).2 ▸ hl, hp⟩
  rw [rawSegs_notes, blocksOf, List.mem_filter]
  refine ⟨List.mem_map.2 ⟨g, hg, rfl⟩, ?_⟩
  -- the block is not empty: it holds the comment's line
  have hne : metaBlock cm g ≠ [] := by
    rw [metaBlock_split]
    apply joinWith_ne_nil _ _ l (List.mem_append_right _ hl)
    intro e
    rw [e] at hp
    exact absurd (List.eq_nil_of_prefix_nil hp) (by simp [comHead])
  simpa using hne

end Adeu.Doc
