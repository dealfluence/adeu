import AdeuModel.Model.Diff
import AdeuModel.Lemmas.Tiles
import AdeuModel.Lemmas.List
namespace Adeu.Diff
open Adeu

/-- Normal form with a flag: `pd` = the previous entry was a deletion that is still pending. -/
def okFrom : Bool → DiffList → Bool
  | _, [] => true
  | pd, (.del, _) :: ds => !pd && okFrom true ds
  | _, (.eq, _) :: ds => okFrom false ds
  | _, (.ins, _) :: ds => okFrom false ds

theorem anchorTarget_prefix (nt : Str) : anchorTarget nt <+: nt := List.takeWhile_prefix _

/-- The one irregular step of the loop: an insertion with nothing pending is the plain insertion at the
cursor, except at the very start of the document in front of a word, which becomes the anchor. -/
theorem go_ins_none (t : Str) (ds : DiffList) (cur : Nat) :
    go ((.ins, t) :: ds) cur none = stdIns cur t :: go ds cur none ∨
    ∃ nt ds', cur = 0 ∧ ds = (.eq, nt) :: ds' ∧
      go ((.ins, t) :: ds) cur none = ⟨0, anchorTarget nt, t ++ anchorTarget nt⟩ :: go ds cur none := by
  by_cases h0 : cur = 0
  · rcases ds with _ | ⟨⟨_ | _ | _, nt⟩, ds'⟩
    · exact .inl (if_pos h0)
    · by_cases ha : anchorTarget nt = []
      · exact .inl ((if_pos h0).trans (if_pos ha))
      · exact .inr ⟨nt, ds', h0, rfl, (if_pos h0).trans (if_neg ha)⟩
    · exact .inl (if_pos h0)
    · exact .inl (if_pos h0)
  · exact .inl (if_neg h0)

/-- a further deletion joins the pending one -/
theorem go_del_some (t : Str) (ds : DiffList) (i : Nat) (d : Str) :
    go ((.del, t) :: ds) (i + d.length) (some (i, d)) = go ds (i + (d ++ t).length) (some (i, d ++ t)) := by
  rw [List.length_append, ← Nat.add_assoc]
  rfl

/-- The loop's invariant: with nothing pending the remaining edits tile `src ds` from the cursor on; with a
deletion `d` pending at `i` they tile `d ++ src ds` from `i` on; either way the result is `dst ds`. -/
def GoTiles (ds : DiffList) : Prop :=
  (∀ cur, Tiles cur (src ds) (go ds cur none) (dst ds)) ∧
  (∀ i d, Tiles i (d ++ src ds) (go ds (i + d.length) (some (i, d))) (dst ds))

/-- an edit at the cursor -/
theorem tiles_head (i : Nat) (d t : Str) {rest out : Str} {es : List Edit} (h : Tiles (i + d.length) rest es out) :
    Tiles i (d ++ rest) (⟨i, d, t⟩ :: es) (t ++ out) :=
  Tiles.cons (e := ⟨i, d, t⟩) [] rfl h

/-- the anchor: the first word `a` of the text `nt` that follows is replaced by `t ++ a`, the cursor moves behind `nt` -/
theorem tiles_anchor {a nt : Str} (ha : a <+: nt) (t : Str) {k : Nat} {rest out : Str} {es : List Edit}
    (h : Tiles k rest es out) (hk : k = nt.length) :
    Tiles 0 (nt ++ rest) (⟨0, a, t ++ a⟩ :: es) (t ++ (nt ++ out)) := by
  obtain ⟨r, rfl⟩ := ha
  simpa only [List.append_assoc] using
    tiles_head 0 a (t ++ a) (h.prepend r (by rw [hk, List.length_append, Nat.zero_add]))

/-- Every step but one is an equation of `go`, `src` and `dst` away from `Tiles.prepend` or `tiles_head`.
`h'`: the anchor step looks one entry further ahead. -/
theorem GoTiles.cons (x : Op × Str) (ds : DiffList) (h : GoTiles ds) (h' : GoTiles ds.tail) : GoTiles (x :: ds) := by
  obtain ⟨o, t⟩ := x
  cases o with
  | eq =>
    have hp := fun cur => (h.1 (cur + t.length)).prepend t rfl
    exact ⟨hp, fun i d => tiles_head i d [] (hp _)⟩
  | del =>
    refine ⟨fun cur => h.2 cur t, fun i d => ?_⟩
    rw [go_del_some]
    exact List.append_assoc .. ▸ h.2 i (d ++ t)
  | ins =>
    refine ⟨fun cur => ?_, fun i d => tiles_head i d t (h.1 _)⟩
    rcases go_ins_none t ds cur with hg | ⟨nt, ds', rfl, rfl, hg⟩
    · rw [hg]
      exact tiles_head cur [] t (h.1 cur)
    · rw [hg]
      exact tiles_anchor (anchorTarget_prefix nt) t (h'.1 _) (Nat.zero_add _)

theorem go_tiles (ds : DiffList) : GoTiles ds := by
  suffices h : GoTiles ds ∧ GoTiles ds.tail from h.1
  induction ds with
  | nil =>
    have : GoTiles [] := ⟨fun _ => .nil _ _, fun i d => tiles_head i d [] (.nil _ [])⟩
    exact ⟨this, this⟩
  | cons x ds ih => exact ⟨.cons x ds ih.1 ih.2, ih.1⟩

theorem editsOfDiffs_tiles (ds : DiffList) : Tiles 0 (src ds) (editsOfDiffs ds) (dst ds) := (go_tiles ds).1 0

/-- An edit whose differing part is made of whole tokens of the two token sequences, possibly
followed by a common context `c` that is copied unchanged (the start-of-document anchor). -/
def Aligned (S D : List Str) (e : Edit) : Prop :=
  ∃ (c : Str) (pre blk post pre' blk' post' : List Str),
    e.target = flat blk ++ c ∧ e.new = flat blk' ++ c ∧
    S = pre ++ blk ++ post ∧ e.idx = (flat pre).length ∧ D = pre' ++ blk' ++ post'

theorem flat_append (a b : List Str) : flat (a ++ b) = flat a ++ flat b := List.flatten_append
theorem flat_nil : flat [] = [] := rfl
theorem ofTok_nil : ofTok [] = [] := rfl
theorem ofTok_cons (o : Op) (ts : List Str) (tds : TokDiffList) :
    ofTok ((o, ts) :: tds) = (o, flat ts) :: ofTok tds := rfl

/-- `Aligned` read from offset `pos` on: `S`, `D` are the tokens of the two texts from there on.  Like `Tiles`
it is kept by putting common tokens in front, so the loop's invariant needs no record of the tokens passed. -/
def AlignedFrom (pos : Nat) (S D : List Str) (e : Edit) : Prop :=
  ∃ (c : Str) (pre blk post pre' blk' post' : List Str),
    e.target = flat blk ++ c ∧ e.new = flat blk' ++ c ∧
    S = pre ++ blk ++ post ∧ e.idx = (flat pre).length + pos ∧ D = pre' ++ blk' ++ post'

theorem alignedFrom_zero {S D : List Str} {e : Edit} : AlignedFrom 0 S D e ↔ Aligned S D e := Iff.rfl

theorem AlignedFrom.prepend {pos : Nat} {S D : List Str} {e : Edit} (a b : List Str)
    (h : AlignedFrom (pos + (flat a).length) S D e) : AlignedFrom pos (a ++ S) (b ++ D) e := by
  obtain ⟨c, pre, blk, post, pre', blk', post', ht, hn, rfl, hi, rfl⟩ := h
  refine ⟨c, a ++ pre, blk, post, b ++ pre', blk', post', ht, hn, ?_, ?_, ?_⟩
  · simp only [List.append_assoc]
  · rw [hi, flat_append, List.length_append, Nat.add_comm pos, ← Nat.add_assoc, Nat.add_comm (flat pre).length]
  · simp only [List.append_assoc]

/-- the edit a state of the loop emits at `pos`: the tokens `pt` go, `bt` come, `c` stays -/
theorem alignedFrom_anchor (pos : Nat) (pt S bt D : List Str) (c : Str) :
    AlignedFrom pos (pt ++ S) (bt ++ D) ⟨pos, flat pt ++ c, flat bt ++ c⟩ :=
  ⟨c, [], pt, S, [], bt, D, rfl, rfl, rfl, (Nat.zero_add _).symm, rfl⟩

theorem alignedFrom_block (pos : Nat) (pt S bt D : List Str) :
    AlignedFrom pos (pt ++ S) (bt ++ D) ⟨pos, flat pt, flat bt⟩ :=
  ⟨[], [], pt, S, [], bt, D, (List.append_nil _).symm, (List.append_nil _).symm, rfl, (Nat.zero_add _).symm, rfl⟩

/-- The alignment invariant of the loop, per state, in the shape of `GoTiles`: `pt` are the tokens of the
pending deletion. -/
theorem go_aligned (tds : TokDiffList) :
    (∀ cur, ∀ e ∈ go (ofTok tds) cur none, AlignedFrom cur (srcTok tds) (dstTok tds) e) ∧
    (∀ i pt, ∀ e ∈ go (ofTok tds) (i + (flat pt).length) (some (i, flat pt)),
      AlignedFrom i (pt ++ srcTok tds) (dstTok tds) e) := by
  induction tds with
  | nil =>
    exact ⟨fun _ _ he => (nomatch he), fun i pt => List.forall_mem_cons.mpr
      ⟨alignedFrom_block i pt [] [] [], fun _ he => (nomatch he)⟩⟩
  | cons x tds ih =>
    obtain ⟨o, ts⟩ := x
    cases o with
    | eq =>
      have rest := fun cur e he => (ih.1 (cur + (flat ts).length) e he).prepend ts ts
      exact ⟨rest, fun i pt => List.forall_mem_cons.mpr
        ⟨alignedFrom_block i pt (ts ++ srcTok tds) [] (ts ++ dstTok tds), fun e he => (rest _ e he).prepend pt []⟩⟩
    | del =>
      refine ⟨fun cur => ih.2 cur ts, fun i pt e he => ?_⟩
      rw [ofTok_cons, go_del_some, ← flat_append] at he
      exact List.append_assoc .. ▸ ih.2 i (pt ++ ts) e he
    | ins =>
      have rest := fun cur e he => (ih.1 cur e he).prepend [] ts
      refine ⟨fun cur => ?_, fun i pt => List.forall_mem_cons.mpr
        ⟨alignedFrom_block i pt (srcTok tds) ts (dstTok tds), fun e he => (rest _ e he).prepend pt []⟩⟩
      rw [ofTok_cons]
      rcases go_ins_none (flat ts) (ofTok tds) cur with hg | ⟨nt, _, rfl, -, hg⟩
      · rw [hg]
        exact List.forall_mem_cons.mpr ⟨alignedFrom_block cur [] (srcTok tds) ts (dstTok tds), rest cur⟩
      · rw [hg]
        exact List.forall_mem_cons.mpr
          ⟨alignedFrom_anchor 0 [] (srcTok tds) ts (dstTok tds) (anchorTarget nt), rest 0⟩

theorem sepSplitFuel_flatten (n : Nat) (cur r : Str) : (sepSplitFuel n cur r).flatten = cur ++ r := by
  induction n generalizing cur r with
  | zero => simp [sepSplitFuel]
  | succ n ih =>
    cases r with
    | nil => simp [sepSplitFuel]
    | cons c r =>
      unfold sepSplitFuel
      split
      · rw [ih]; simp
      · simp only [List.flatten_cons, ih, List.nil_append, List.take_append_drop]

theorem sepSplit_flatten (s : Str) : (sepSplit s).flatten = s := by
  simp [sepSplit, sepSplitFuel_flatten]

theorem ite_cut {c : Prop} [Decidable c] {a b : Str × Str} {r : Str} (ha : a.1 ++ a.2 = r) (hb : b.1 ++ b.2 = r) :
    (if c then a else b).1 ++ (if c then a else b).2 = r := by
  split <;> assumption

theorem nextTokG_append (sp isw : Char → Bool) (ls : Bool) (r : Str) :
    (nextTokG sp isw ls r).1 ++ (nextTokG sp isw ls r).2 = r := by
  unfold nextTokG
  refine ite_cut (List.take_append_drop _ _) (ite_cut (List.take_append_drop _ _) ?_)
  cases r with
  | nil => rfl
  | cons c r =>
    exact ite_cut List.takeWhile_append_dropWhile (ite_cut List.takeWhile_append_dropWhile
      (ite_cut List.takeWhile_append_dropWhile (List.take_append_drop _ _)))

theorem nextTok_append (ls : Bool) (r : Str) : (nextTok ls r).1 ++ (nextTok ls r).2 = r :=
  nextTokG_append _ _ ls r

theorem tokensFuel_flatten (n : Nat) (ls : Bool) (r : Str) : (tokensFuel n ls r).flatten = r := by
  induction n generalizing ls r with
  | zero => unfold tokensFuel; split <;> simp_all
  | succ n ih =>
    unfold tokensFuel
    split
    · simp_all
    · simp only [List.flatten_cons, ih]
      exact nextTok_append ls r

theorem tokens_flatten (s : Str) : flat (tokens s) = s := tokensFuel_flatten _ _ _

theorem commonPrefixLen_le : ∀ a b : List Str, commonPrefixLen a b ≤ min a.length b.length
  | [], _ | _ :: _, [] => Nat.zero_le _
  | x :: a, y :: b => by
    unfold commonPrefixLen
    split
    · exact Nat.succ_min_succ .. ▸ Nat.succ_le_succ (commonPrefixLen_le a b)
    · exact Nat.zero_le _

theorem commonPrefixLen_take (a b : List Str) (k : Nat) (hk : k ≤ commonPrefixLen a b) :
    a.take k = b.take k := by
  fun_induction commonPrefixLen a b generalizing k with
  | case1 a as bs ih =>
    cases k with
    | zero => simp
    | succ k => simp [ih k (by omega)]
  | case2 a as b bs h => simp_all
  | case3 a b h =>
    have : k = 0 := by omega
    simp [this]

theorem commonSuffix_drop (a b : List Str) (k : Nat) (hk : k ≤ commonPrefixLen a.reverse b.reverse) :
    a.drop (a.length - k) = b.drop (b.length - k) :=
  drop_eq_of_rev_take (commonPrefixLen_take a.reverse b.reverse k hk)

theorem src_filter (ds : DiffList) : src (ds.filter fun p => !p.2.isEmpty) = src ds := by
  induction ds with
  | nil => rfl
  | cons x ds ih => obtain ⟨o, t⟩ := x; cases o <;> cases t <;> simp [List.filter, src, ih]

theorem dst_filter (ds : DiffList) : dst (ds.filter fun p => !p.2.isEmpty) = dst ds := by
  induction ds with
  | nil => rfl
  | cons x ds ih => obtain ⟨o, t⟩ := x; cases o <;> cases t <;> simp [List.filter, dst, ih]

theorem src_append (a b : DiffList) : src (a ++ b) = src a ++ src b := by
  induction a with
  | nil => rfl
  | cons x a ih => obtain ⟨o, t⟩ := x; cases o <;> simp [src, ih]

theorem dst_append (a b : DiffList) : dst (a ++ b) = dst a ++ dst b := by
  induction a with
  | nil => rfl
  | cons x a ih => obtain ⟨o, t⟩ := x; cases o <;> simp [dst, ih]

/-- `lead` and `trail` of `pieces` fit side by side into both token lists -/
theorem add_min_sub_le {l m : Nat} (c : Nat) (h : l ≤ m) : l + min c (m - l) ≤ m :=
  Nat.le_trans (Nat.add_le_add_left (Nat.min_le_right ..) l) (Nat.le_of_eq (Nat.add_sub_cancel' h))

theorem pieces_texts (d i : Str) : src (pieces d i) = d ∧ dst (pieces d i) = i := by
  unfold pieces
  have hb := add_min_sub_le (commonPrefixLen (tokens d).reverse (tokens i).reverse)
    (commonPrefixLen_le (tokens d) (tokens i))
  simp only [src_filter, dst_filter, src, dst, flat, List.append_nil, ← List.flatten_append]
  rw [take_mid_drop' _ _ _ (Nat.le_trans hb (Nat.min_le_left ..)), commonPrefixLen_take _ _ _ (Nat.le_refl _),
    commonSuffix_drop _ _ _ (Nat.min_le_left ..), take_mid_drop' _ _ _ (Nat.le_trans hb (Nat.min_le_right ..))]
  exact ⟨tokens_flatten d, tokens_flatten i⟩

theorem segments_texts (dp ip : List Str) (h : compat dp ip = true) :
    src (segments dp ip) = dp.flatten ∧ dst (segments dp ip) = ip.flatten := by
  fun_induction compat dp ip with
  | case1 d i => simpa [segments] using pieces_texts d i
  | case2 d s dr i s' ir ih =>
    obtain ⟨rfl, hc⟩ : s = s' ∧ compat dr ir = true := by simpa using h
    simp only [segments, src_append, dst_append, src, dst, pieces_texts, ih hc, List.flatten_cons, and_self]
  | case3 => cases h

theorem splitPair_texts (d i : Str) (ps : DiffList) (h : splitPair d i = some ps) : src ps = d ∧ dst ps = i := by
  unfold splitPair at h
  simp only at h
  split at h
  · rename_i hc
    obtain rfl := Option.some.inj h
    simpa [sepSplit_flatten] using segments_texts _ _ (Bool.and_eq_true_iff.mp hc).2
  · cases h

theorem splitDiffs_texts (ds : DiffList) : src (splitDiffs ds) = src ds ∧ dst (splitDiffs ds) = dst ds := by
  fun_induction splitDiffs ds with
  | case1 d i rest ps h ih => simp [src_append, dst_append, src, dst, splitPair_texts d i ps h, ih]
  | case2 d i rest h ih => simpa [src, dst] using ih
  | case3 x rest hx ih => obtain ⟨o, t⟩ := x; cases o <;> simp [src, dst, ih]
  | case4 => exact ⟨rfl, rfl⟩

/-- The whole pipeline after diff-match-patch: separator splitting changes neither text. -/
theorem editsOfRaw_tiles (ds : DiffList) : Tiles 0 (src ds) (editsOfRaw ds) (dst ds) := by
  have := editsOfDiffs_tiles (splitDiffs ds)
  rwa [(splitDiffs_texts ds).1, (splitDiffs_texts ds).2] at this

end Adeu.Diff
