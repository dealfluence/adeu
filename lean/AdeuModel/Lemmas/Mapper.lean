import AdeuModel.Model.Mapper
import AdeuModel.Lemmas.Blocks
import AdeuModel.Lemmas.Text
import AdeuModel.Lemmas.Items
import AdeuModel.Lemmas.Extract
import AdeuModel.Lemmas.List
namespace Adeu.Doc
open Adeu

def piecesText (ps : List Piece) : Str := ps.flatMap (·.text)

@[simp] theorem spansText_nil : spansText [] = [] := rfl
@[simp] theorem spansText_append (a b : List Span) : spansText (a ++ b) = spansText a ++ spansText b := by
  simp [spansText]
@[simp] theorem spansText_cons (a : Span) (b : List Span) : spansText (a :: b) = a.text ++ spansText b := by
  simp [spansText]

@[simp] theorem spansText_virt (pp : PPath) (t : Str) : spansText (virt pp t) = t :=
  flatMap_unless_isEmpty Span.text t _ rfl

@[simp] theorem pieceSpan_text (pp : PPath) (p : Piece) : (pieceSpan pp p).text = p.text := by
  unfold pieceSpan; split <;> rfl

@[simp] theorem spansText_pieces (pp : PPath) (ps : List Piece) :
    spansText (ps.map (pieceSpan pp)) = piecesText ps := by
  induction ps with
  | nil => rfl
  | cons p r ih => simp_all [piecesText, spansText]

@[simp] theorem piecesText_append (a b : List Piece) : piecesText (a ++ b) = piecesText a ++ piecesText b := by
  simp [piecesText]

/-- every waiting piece carries text, so "no pieces" and "no pending text" coincide -/
def NE (ps : List Piece) : Prop := ∀ p ∈ ps, p.text ≠ []

theorem NE_nil : NE [] := fun _ hp => nomatch hp

theorem NE_single {pc : Piece} (h : pc.text ≠ []) : NE [pc] := fun p hp => by rw [List.mem_singleton.mp hp]; exact h

theorem NE_append {a b : List Piece} (ha : NE a) (hb : NE b) : NE (a ++ b) := fun p hp =>
  (List.mem_append.mp hp).elim (ha p) (hb p)

theorem NE_flatMap {α} (l : List α) (f : α → List Piece) (h : ∀ a ∈ l, NE (f a)) : NE (l.flatMap f) := fun p hp => by
  obtain ⟨a, ha, hpa⟩ := List.mem_flatMap.mp hp
  exact h a ha p hpa

theorem NE_opt (t : Str) (pc : Piece) (h : pc.text = t) : NE (if t.isEmpty then [] else [pc]) := by
  split
  · exact NE_nil
  · rename_i ht; exact NE_single (by rw [h]; simpa using ht)

theorem piecesText_opt (t : Str) (pc : Piece) (h : pc.text = t) : piecesText (if t.isEmpty then [] else [pc]) = t :=
  flatMap_unless_isEmpty Piece.text t pc h

theorem piecesText_eq_nil {ps : List Piece} (h : NE ps) : piecesText ps = [] ↔ ps = [] := by
  refine ⟨fun ht => ?_, fun h => h ▸ rfl⟩
  cases ps with
  | nil => rfl
  | cons p r => exact absurd (List.append_eq_nil_iff.mp ht).1 (h p List.mem_cons_self)

/-- The pieces of one line of a run's text: the line between the two markers (a marker piece only where there is a
marker), and nothing at all for an empty line. What `wrapPart` is to the reader. -/
def linePieces (pre suf : Str) (ref : RunRef) (i d : Option Str) (p : Str) : List Piece :=
  if p.isEmpty then []
  else (if pre.isEmpty then [] else [⟨false, pre, none, i, d⟩]) ++ [⟨true, p, some ref, i, d⟩] ++
    (if suf.isEmpty then [] else [⟨false, suf, none, i, d⟩])

theorem linePieces_text (pre suf : Str) (ref : RunRef) (i d : Option Str) (p : Str) :
    piecesText (linePieces pre suf ref i d p) = wrapPart pre suf p := by
  unfold linePieces wrapPart
  split
  · rfl
  · rw [piecesText_append, piecesText_append, piecesText_opt pre _ rfl, piecesText_opt suf _ rfl]
    simp [piecesText]

theorem linePieces_NE (pre suf : Str) (ref : RunRef) (i d : Option Str) (p : Str) : NE (linePieces pre suf ref i d p) := by
  unfold linePieces
  split
  · exact NE_nil
  · rename_i hp
    exact NE_append (NE_append (NE_opt _ _ rfl) (NE_single (by simpa using hp))) (NE_opt _ _ rfl)

/-- `runPieces` of a run with text: its lines as `linePieces` with a newline piece in front of every line but the first
when there are markers to keep off the line breaks, the whole text as one line otherwise -/
theorem runPieces_eq (r : Run) (ref : RunRef) (i d : Option Str) (h : (runText r).isEmpty = false) :
    runPieces r ref i d =
      if (runText r).contains '\n' && !((runMarkers r).1.isEmpty && (runMarkers r).2.isEmpty) then
        (splitNl (runText r)).zipIdx.flatMap fun (part, idx) =>
          (if idx > 0 then [⟨true, ['\n'], some ref, i, d⟩] else []) ++
            linePieces (runMarkers r).1 (runMarkers r).2 ref i d part
      else linePieces (runMarkers r).1 (runMarkers r).2 ref i d (runText r) := by
  unfold runPieces linePieces
  generalize runMarkers r = m
  obtain ⟨pre, suf⟩ := m
  simp only [h, Bool.false_eq_true, ↓reduceIte]

theorem linePieces_joined (pre suf : Str) (ref : RunRef) (i d : Option Str) : ∀ (parts : List Str) (k : Nat),
    piecesText ((parts.zipIdx k).flatMap fun (part, idx) =>
      (if idx > 0 then [(⟨true, ['\n'], some ref, i, d⟩ : Piece)] else []) ++ linePieces pre suf ref i d part) =
    joinFrom ['\n'] k (parts.map (wrapPart pre suf)) := by
  intro parts
  induction parts with
  | nil => intro k; simp [piecesText, joinFrom_nil]
  | cons p r ih =>
    intro k
    have hk : piecesText (if k > 0 then [(⟨true, ['\n'], some ref, i, d⟩ : Piece)] else []) = if k > 0 then ['\n'] else [] := by
      split <;> rfl
    simp only [List.zipIdx_cons, List.flatMap_cons, piecesText_append, ih (k + 1), linePieces_text]
    rw [hk, List.map_cons, joinFrom_cons, List.append_assoc]

theorem runPieces_text (r : Run) (ref : RunRef) (i d : Option Str) (h : (runText r).isEmpty = false) :
    piecesText (runPieces r ref i d) = applyFormatting (runText r) (runMarkers r).1 (runMarkers r).2 := by
  rw [runPieces_eq r ref i d h, applyFormatting_eq]
  by_cases hm : ((runMarkers r).1.isEmpty && (runMarkers r).2.isEmpty) = true
  · -- no markers: one piece, the text
    rw [if_pos hm, hm, Bool.not_true, Bool.and_false, if_neg Bool.false_ne_true, linePieces_text]
    simp only [Bool.and_eq_true, List.isEmpty_iff] at hm
    rw [hm.1, hm.2, wrapPart_nil]
  · rw [if_neg hm, Bool.eq_false_iff.mpr hm, Bool.not_false, Bool.and_true]
    split
    · rw [linePieces_joined, joinFrom_zero]
    · rename_i hn
      rw [linePieces_text, splitNl_noNl_self _ (by simpa using hn)]; rfl

theorem runPieces_NE (r : Run) (ref : RunRef) (i d : Option Str) (h : (runText r).isEmpty = false) :
    NE (runPieces r ref i d) := by
  rw [runPieces_eq r ref i d h]
  split
  · refine NE_flatMap _ _ fun ⟨part, idx⟩ _ => NE_append ?_ (linePieces_NE _ _ _ _ _ part)
    split
    · exact NE_single (List.cons_ne_nil _ _)
    · exact NE_nil
  · exact linePieces_NE _ _ _ _ _ _

/-- the simulation relation between the writer's and the reader's paragraph state -/
structure Rel (ms : MSt) (ps : PSt) : Prop where
  out : ps.out = spansText ms.out
  pending : ps.pending = piecesText ms.pending
  ne : NE ms.pending
  wr : ps.wr = ms.wr
  ins : ps.ins = evMap ms.insEv
  del : ps.del = evMap ms.delEv
  comments : ps.comments = ms.comments
  deferred : ps.deferred = ms.deferred

theorem Rel.pendingEmpty {ms : MSt} {ps : PSt} (h : Rel ms ps) : ps.pending.isEmpty = ms.pending.isEmpty := by
  rw [Bool.eq_iff_iff, List.isEmpty_iff, List.isEmpty_iff, h.pending]
  exact piecesText_eq_nil h.ne

theorem Rel.flush {ms : MSt} {ps : PSt} (pp : PPath) (h : Rel ms ps) : Rel (ms.flush pp) ps.flush := by
  unfold MSt.flush PSt.flush
  rw [h.pendingEmpty]
  split
  · exact h
  · exact { out := by simp [h.out, h.pending, h.wr, List.append_assoc]
            pending := rfl
            ne := NE_nil
            wr := rfl
            ins := h.ins, del := h.del, comments := h.comments, deferred := h.deferred }

theorem revSet_nil (k : Str) (a : Option Str) : revSet k a [] = [(k, a)] := rfl

def idOf (e : Option (Str × Option Str)) : Option Str := e.map (·.1)

theorem evMap_isEmpty (e : Option (Str × Option Str)) : (evMap e).isEmpty = !(idOf e).isSome := by
  cases e <;> rfl

theorem MSt.flush_insEv (pp : PPath) (s : MSt) : (s.flush pp).insEv = s.insEv := by
  unfold MSt.flush; split <;> rfl
theorem MSt.flush_delEv (pp : PPath) (s : MSt) : (s.flush pp).delEv = s.delEv := by
  unfold MSt.flush; split <;> rfl

/-- Where marks do not nest the reader's dictionary of open marks holds at most one entry, the writer's `Option`:
opening a mark when none is open and closing the open one do the same to both. -/
theorem revSet_evMap {e : Option (Str × Option Str)} (h : idOf e = none) (id : Str) (a : Option Str) :
    revSet id a (evMap e) = evMap (some (id, a)) := by
  cases e with
  | none => rfl
  | some p => cases h

theorem revDel_evMap {e : Option (Str × Option Str)} {id : Str} (h : idOf e = some id) : revDel id (evMap e) = evMap none := by
  cases e with
  | none => cases h
  | some p => cases h; simp [revDel, evMap]

theorem ev_rel {ms : MSt} {ps : PSt} (h : Rel ms ps) (ty : EvTy) (id : Str) (a : Option Str)
    (rest : List Item) (hw : WF (idOf ms.insEv) (idOf ms.delEv) (.ev ty id a :: rest)) :
    Rel (mApplyEv ms ty id a) (applyEv ps ty id a) ∧
    WF (idOf (mApplyEv ms ty id a).insEv) (idOf (mApplyEv ms ty id a).delEv) rest := by
  cases ty with
  | start => exact ⟨{ h with comments := congrArg (setAdd id) h.comments }, hw⟩
  | end_ => exact ⟨{ h with comments := congrArg (setDel id) h.comments }, hw⟩
  | ref => exact ⟨h, hw⟩
  | insStart => exact ⟨{ h with ins := (congrArg (revSet id a) h.ins).trans (revSet_evMap hw.1 id a) }, hw.2⟩
  | insEnd => exact ⟨{ h with ins := (congrArg (revDel id) h.ins).trans (revDel_evMap hw.1) }, hw.2⟩
  | delStart => exact ⟨{ h with del := (congrArg (revSet id a) h.del).trans (revSet_evMap hw.1 id a) }, hw.2⟩
  | delEnd => exact ⟨{ h with del := (congrArg (revDel id) h.del).trans (revDel_evMap hw.1) }, hw.2⟩

/-- the writer's buffer takes a run's pieces as the reader's takes its segment (`PSt.push_eq`) -/
theorem MSt.push_eq (pp : PPath) (s : MSt) (pieces : List Piece) (nw : Str × Str) :
    s.push pp pieces nw = if (!s.pending.isEmpty && nw = s.wr) = true then { s with pending := s.pending ++ pieces }
      else { s.flush pp with pending := pieces, wr := nw } := by
  by_cases hp : s.pending.isEmpty = true
  · simp only [MSt.push, MSt.flush, hp, Bool.not_true, Bool.false_and, Bool.false_eq_true, ↓reduceIte]
  · simp only [MSt.push, MSt.flush, hp, Bool.false_eq_true, ↓reduceIte]

theorem push_rel (pp : PPath) {ms : MSt} {ps : PSt} (h : Rel ms ps) (pieces : List Piece) (seg : Str)
    (nw : Str × Str) (ht : piecesText pieces = seg) (hn : NE pieces) :
    Rel (ms.push pp pieces nw) (ps.push seg nw) ∧ (ms.push pp pieces nw).insEv = ms.insEv ∧
      (ms.push pp pieces nw).delEv = ms.delEv := by
  -- the reader branches as the writer does: both extend the buffer, or both flush it and start anew
  rw [MSt.push_eq, PSt.push_eq, h.pendingEmpty, h.wr]
  split
  · exact ⟨{ h with pending := by simp [h.pending, ht], ne := NE_append h.ne hn, wr := rfl }, rfl, rfl⟩
  · exact ⟨{ h.flush pp with pending := ht.symm, ne := hn, wr := rfl }, MSt.flush_insEv pp ms, MSt.flush_delEv pp ms⟩

theorem meta_rel (cm : CMap) (pp : PPath) {ms : MSt} {ps : PSt} (h : Rel ms ps) (rest : List Item) :
    Rel (ms.meta cm pp rest) (ps.meta cm rest) ∧ (ms.meta cm pp rest).insEv = ms.insEv ∧
      (ms.meta cm pp rest).delEv = ms.delEv := by
  unfold MSt.meta PSt.meta
  simp only
  have hr2 : Rel { ms with deferred := ms.deferred ++ [{ ins := evMap ms.insEv, del := evMap ms.delEv, comments := ms.comments }] }
      { ps with deferred := ps.deferred ++ [{ ins := ps.ins, del := ps.del, comments := ps.comments }] } :=
    { h with deferred := by simp [h.deferred, h.ins, h.del, h.comments] }
  have hcond : ((!ps.ins.isEmpty || !ps.del.isEmpty) && nextIsRedline (!ps.ins.isEmpty) (!ps.del.isEmpty) rest) =
      ((ms.insEv.isSome || ms.delEv.isSome) && nextIsRedline ms.insEv.isSome ms.delEv.isSome rest) := by
    rw [h.ins, h.del, evMap_isEmpty, evMap_isEmpty]; simp [idOf]
  rw [hcond]
  split
  · exact ⟨hr2, rfl, rfl⟩
  · have hr3 := hr2.flush pp
    refine ⟨{ hr3 with out := ?_, deferred := rfl }, ?_, ?_⟩
    · simp [hr3.out, hr3.deferred]
    · simp [MSt.flush_insEv]
    · simp [MSt.flush_delEv]

theorem run_rel (clean : Bool) (cm : CMap) (pp : PPath) {ms : MSt} {ps : PSt} (h : Rel ms ps)
    (r : Run) (loc : Loc) (rest : List Item) :
    Rel (mapStep clean cm pp ms (.run r loc) rest) (paraStep clean cm ps (.run r loc) rest) ∧
    (mapStep clean cm pp ms (.run r loc) rest).insEv = ms.insEv ∧
    (mapStep clean cm pp ms (.run r loc) rest).delEv = ms.delEv := by
  have hdel : (!ps.del.isEmpty) = (ms.delEv.map (·.1)).isSome := by
    rw [h.del, evMap_isEmpty, Bool.not_not]; rfl
  unfold mapStep paraStep
  -- the reader tests its segment and its open deletions, the writer the run's text and its open deletion
  simp only [applyFormatting_isEmpty, hdel]
  by_cases ht : (runText r).isEmpty = true
  · simp only [ht, ↓reduceIte]
    exact ⟨by split <;> exact h, trivial, trivial⟩
  · have ht' : (runText r).isEmpty = false := by simpa using ht
    have hpt := runPieces_text r ⟨pp, loc⟩ (ms.insEv.map (·.1)) (ms.delEv.map (·.1)) ht'
    have hpn := runPieces_NE r ⟨pp, loc⟩ (ms.insEv.map (·.1)) (ms.delEv.map (·.1)) ht'
    simp only [ht', Bool.false_eq_true, ↓reduceIte]
    cases clean with
    | true =>
      simp only [Bool.true_and, ↓reduceIte]
      by_cases hds : (ms.delEv.map (·.1)).isSome = true
      · simp only [hds, ↓reduceIte]
        exact ⟨h, trivial, trivial⟩
      · simp only [hds, Bool.false_eq_true, ↓reduceIte]
        exact push_rel pp h _ _ _ hpt hpn
    | false =>
      simp only [Bool.false_and, Bool.false_eq_true, ↓reduceIte]
      have hp := push_rel pp h _ _ (wrappers (evMap ms.insEv) (evMap ms.delEv) ms.comments) hpt hpn
      rw [h.ins, h.del, h.comments]
      obtain ⟨hr1, hi1, hd1⟩ := hp
      obtain ⟨hr2, hi2, hd2⟩ := meta_rel cm pp hr1 rest
      exact ⟨hr2, hi2.trans hi1, hd2.trans hd1⟩

theorem loop_rel (clean : Bool) (cm : CMap) (pp : PPath) : ∀ (its : List Item) (ms : MSt) (ps : PSt),
    Rel ms ps → WF (idOf ms.insEv) (idOf ms.delEv) its →
    Rel (mapLoop clean cm pp ms its) (paraLoop clean cm ps its) := by
  intro its
  induction its with
  | nil => intro ms ps h _; simpa [mapLoop, paraLoop] using h
  | cons it rest ih =>
    intro ms ps h hw
    simp only [mapLoop, paraLoop]
    cases it with
    | run r loc =>
      obtain ⟨hr, hi, hd⟩ := run_rel clean cm pp h r loc rest
      exact ih _ _ hr (by rw [hi, hd]; simpa [WF] using hw)
    | ev ty id a =>
      -- both sides flush, then apply the event; the flush leaves the open marks alone
      obtain ⟨hr, hw'⟩ := ev_rel (h.flush pp) ty id a rest (by rw [MSt.flush_insEv, MSt.flush_delEv]; exact hw)
      exact ih _ _ hr hw'

/-- The writer's paragraph index and the reader's paragraph text are the same string. -/
theorem paraSpans_text (clean : Bool) (cm : CMap) (pp : PPath) (p : Para) :
    spansText (paraSpans clean cm pp p) = paraText clean cm p := by
  have h := loop_rel clean cm pp (items p) {} {} ⟨rfl, rfl, NE_nil, rfl, rfl, rfl, rfl, rfl⟩ (by simpa [idOf, items] using WF_itemsFrom p.nodes {} 0)
  have hf := h.flush pp
  unfold paraSpans paraText
  simp only
  rw [← hf.deferred]
  split
  · exact hf.out.symm
  · simp [hf.out]

theorem spansText_joinSpans (sep : Span) : ∀ l : List (List Span),
    spansText (joinSpans sep l) = joinWith sep.text (l.map spansText)
  | [] => rfl
  | [x] => by simp [joinSpans, joinWith]
  | x :: y :: r => by
    have ih := spansText_joinSpans sep (y :: r)
    simp only [joinSpans, spansText_append, spansText_cons, spansText_nil, List.append_nil] at ih ⊢
    simp only [List.map_cons, joinWith_cons_cons] at ih ⊢
    rw [ih]

def nn : Str := ['\n', '\n']

theorem getD_map_map (cellSp : List (List (List Span))) (r c : Nat) :
    spansText (((cellSp[r]?).getD [])[c]?.getD []) =
      (((cellSp.map (·.map spansText))[r]?).getD [])[c]?.getD [] := by
  simp only [List.getElem?_map]
  cases h1 : cellSp[r]? with
  | none => simp
  | some row =>
    simp only [Option.map_some, Option.getD_some, List.getElem?_map]
    cases h2 : row[c]? with
    | none => simp
    | some x => simp

theorem table_text_of_rows (clean : Bool) (cm : CMap) (pp : PPath) (rows : List Row)
    (h : (rowsCellSpans clean cm pp rows 0).map (·.map spansText) = rowsCellTexts clean cm rows) :
    spansText (tableSpans clean cm pp rows) = tableText clean cm rows := by
  unfold tableSpans tableText
  simp only [spansText_joinSpans, sepSpan, List.map_map]
  congr 1
  apply List.map_congr_left
  intro ri _
  simp only [Function.comp, spansText_joinSpans, List.map_map]
  congr 1
  apply List.map_congr_left
  intro ⟨r, c⟩ _
  simp only [Function.comp]
  rw [getD_map_map, h]

theorem spansText_sep (em : Nat) (pp : Option PPath) :
    spansText (if em > 0 then [sepSpan ['\n', '\n'] pp] else []) = if em > 0 then nn else [] := by
  split <;> simp [sepSpan, nn]

theorem blocks_rows_cells_text (clean : Bool) (cm : CMap) :
    (∀ (bs : List Block) (pp : PPath) (bi em : Nat), spansText (blocksSpans clean cm pp bs bi em) =
        joinFrom nn em (blocksText clean cm bs)) ∧
    (∀ (rows : List Row) (pp : PPath) (ri : Nat),
        (rowsCellSpans clean cm pp rows ri).map (·.map spansText) = rowsCellTexts clean cm rows) ∧
    (∀ (cells : List Cell) (pp : PPath) (ci : Nat),
        (cellsSpans clean cm pp cells ci).map spansText = cellsTexts clean cm cells) := by
  apply blocks_induction
  case nil => intro pp bi em; simp only [blocksSpans, blocksText, joinFrom_nil, spansText_nil]
  case para =>
    intro p bs ih pp bi em
    simp only [blocksSpans, blocksText, joinFrom_cons, spansText_append, spansText_virt, paraSpans_text, ih, spansText_sep,
      List.append_assoc]
  case table =>
    intro pr g rows bs ihr ih pp bi em
    have ht := table_text_of_rows clean cm (pp ++ [bi]) rows (ihr _ 0)
    simp only [blocksSpans, blocksText, ht]
    split
    · exact ih pp (bi + 1) em
    · simp only [joinFrom_cons, spansText_append, ht, ih, spansText_sep, List.append_assoc]
  case other => intro x bs ih pp bi em; simp only [blocksSpans, blocksText]; exact ih pp (bi + 1) em
  case rnil => intro pp ri; simp only [rowsCellSpans, rowsCellTexts, List.map_nil]
  case row => intro pr cells rows ihc ih pp ri; simp only [rowsCellSpans, rowsCellTexts, List.map_cons, ihc, ih]
  case cnil => intro pp ci; simp only [cellsSpans, cellsTexts, List.map_nil]
  case cell =>
    intro pr s v bs cells ihb ih pp ci
    simp only [cellsSpans, cellsTexts, List.map_cons, ihb, ih, joinFrom_zero, nn]

theorem blocks_text (clean : Bool) (cm : CMap) : ∀ (bs : List Block) (pp : PPath) (bi em : Nat),
    spansText (blocksSpans clean cm pp bs bi em) = joinFrom nn em (blocksText clean cm bs) :=
  (blocks_rows_cells_text clean cm).1
theorem rows_text (clean : Bool) (cm : CMap) : ∀ (rows : List Row) (pp : PPath) (ri : Nat),
    (rowsCellSpans clean cm pp rows ri).map (·.map spansText) = rowsCellTexts clean cm rows :=
  (blocks_rows_cells_text clean cm).2.1
theorem cells_text (clean : Bool) (cm : CMap) : ∀ (cells : List Cell) (pp : PPath) (ci : Nat),
    (cellsSpans clean cm pp cells ci).map spansText = cellsTexts clean cm cells :=
  (blocks_rows_cells_text clean cm).2.2

theorem container_text (clean : Bool) (cm : CMap) (pp : PPath) (bs : List Block) :
    spansText (blocksSpans clean cm pp bs 0 0) = containerText clean cm bs := by
  rw [blocks_text, joinFrom_zero]; rfl

theorem go_text (clean : Bool) (cm : CMap) : ∀ (parts : List (List Block)) (pi em : Nat),
    spansText (buildSpansWith.go cm clean parts pi em) =
      joinFrom nn em ((parts.map (containerText clean cm)).filter (!·.isEmpty)) := by
  intro parts
  induction parts with
  | nil => intro pi em; simp only [buildSpansWith.go, List.map_nil, List.filter_nil, joinFrom_nil, spansText_nil]
  | cons part rest ih =>
    intro pi em
    simp only [buildSpansWith.go, container_text, List.map_cons, List.filter_cons]
    by_cases he : (containerText clean cm part).isEmpty = true
    · simp only [he, ↓reduceIte, Bool.not_true, Bool.false_eq_true]
      exact ih (pi + 1) em
    · have he' : (containerText clean cm part).isEmpty = false := by simpa using he
      simp only [he', Bool.false_eq_true, ↓reduceIte, Bool.not_false, joinFrom_cons, spansText_append, container_text, ih, spansText_sep,
        List.append_assoc]

/-- The text the engine indexes equals the text the client reads, in both views. -/
theorem mapperText_eq_extractText (clean : Bool) (d : Document) : mapperText clean d = extractText clean d := by
  unfold mapperText buildSpans buildSpansWith extractText
  rw [go_text, joinFrom_zero]; rfl

end Adeu.Doc
