import AdeuModel.Model.Package
/-
C11 — everything outside the edited stories is preserved at package level.
-/
namespace Adeu.Props.C11
open Adeu.Pkg

theorem lookup_name (upd : List Part) (n : String) (u : Part) (h : lookup upd n = some u) : u.name = n := by
  simpa using List.find?_some h

/-- What a save puts in the place of `p`: `p` itself when no new version has its name, else a new
version, which has the name of `p`. -/
theorem newVersion_cases (upd : List Part) (p : Part) :
    ((∀ u ∈ upd, u.name ≠ p.name) ∧ (lookup upd p.name).getD p = p) ∨
    ((lookup upd p.name).getD p ∈ upd ∧ ((lookup upd p.name).getD p).name = p.name) := by
  cases h : lookup upd p.name with
  | none => exact .inl ⟨fun u hu => by simpa using List.find?_eq_none.1 h u hu, rfl⟩
  | some u => exact .inr ⟨List.mem_of_find?_eq_some h, lookup_name _ _ _ h⟩

/-- the part that stands for `p` in the saved package -/
theorem mem_save_of_mem (pkg : Package) (stories comments : List Part) (newRels : List Rel) (p : Part)
    (hp : p ∈ pkg.parts) :
    (lookup (stories ++ comments) p.name).getD p ∈ (save pkg stories comments newRels).parts :=
  List.mem_append_left _ (List.mem_map_of_mem hp)

/-- Every part whose name is not one of the rewritten stories / comment parts is in the saved
package exactly as it was (same name, content type, content). -/
theorem C11_untouched_parts (pkg : Package) (stories comments : List Part) (newRels : List Rel) (p : Part)
    (hp : p ∈ pkg.parts) (hn : ∀ u ∈ stories ++ comments, u.name ≠ p.name) :
    p ∈ (save pkg stories comments newRels).parts := by
  have h := mem_save_of_mem pkg stories comments newRels p hp
  rcases newVersion_cases (stories ++ comments) p with ⟨_, e⟩ | ⟨hu, e⟩
  · rwa [e] at h
  · exact absurd e (hn _ hu)

/-- No part is lost: every name of the input package is a name of the saved package. -/
theorem C11_no_part_lost' (pkg : Package) (stories comments : List Part) (newRels : List Rel) (p : Part)
    (hp : p ∈ pkg.parts) : ∃ q ∈ (save pkg stories comments newRels).parts, q.name = p.name := by
  refine ⟨_, mem_save_of_mem pkg stories comments newRels p hp, ?_⟩
  rcases newVersion_cases (stories ++ comments) p with ⟨_, e⟩ | ⟨_, e⟩
  · rw [e]
  · exact e

/-- The main document's existing relationships keep their ids, types and targets. -/
theorem C11_rels_kept (pkg : Package) (stories comments : List Part) (newRels : List Rel) (r : Rel)
    (hr : r ∈ pkg.docRels) : r ∈ (save pkg stories comments newRels).docRels :=
  List.mem_append_left _ hr

/-- A story that was not rewritten keeps exactly its content. -/
theorem C11_untargeted_story (pkg : Package) (stories comments : List Part) (newRels : List Rel) (p : Part)
    (hp : p ∈ pkg.parts) (hn : ∀ u ∈ stories ++ comments, u.name ≠ p.name) :
    ∃ q ∈ (save pkg stories comments newRels).parts, q.name = p.name ∧ q.content = p.content ∧ q.ctype = p.ctype :=
  ⟨p, C11_untouched_parts pkg stories comments newRels p hp hn, rfl, rfl, rfl⟩

/-- Nothing appears from nowhere: every part of the saved package is an old part, a rewritten story
or a comment part. -/
theorem C11_only_expected_parts (pkg : Package) (stories comments : List Part) (newRels : List Rel) (q : Part)
    (hq : q ∈ (save pkg stories comments newRels).parts) :
    q ∈ pkg.parts ∨ q ∈ stories ∨ q ∈ comments := by
  rcases List.mem_append.1 hq with hq | hq
  · obtain ⟨p, hp, rfl⟩ := List.mem_map.1 hq
    rcases newVersion_cases (stories ++ comments) p with ⟨_, e⟩ | ⟨hu, _⟩
    · rw [e]; exact .inl hp
    · exact .inr (List.mem_append.1 hu)
  · exact .inr (.inr (List.mem_filter.1 hq).1)

/-! Non-vacuity -/
def samplePkg : Package :=
  { parts := [⟨"word/document.xml", "main", "D0"⟩, ⟨"word/styles.xml", "styles", "S"⟩, ⟨"word/media/image1.png", "image/png", "IMG"⟩],
    docRels := [⟨"rId1", "styles", "styles.xml", ""⟩, ⟨"rId2", "image", "media/image1.png", ""⟩] }
example : (save samplePkg [⟨"word/document.xml", "main", "D1"⟩] [⟨"word/comments.xml", "comments", "C"⟩]
    [⟨"rId3", "comments", "comments.xml", ""⟩]).parts =
    [⟨"word/document.xml", "main", "D1"⟩, ⟨"word/styles.xml", "styles", "S"⟩, ⟨"word/media/image1.png", "image/png", "IMG"⟩,
     ⟨"word/comments.xml", "comments", "C"⟩] := by decide +kernel

end Adeu.Props.C11
