import AdeuModel.Model.Normalize
import AdeuModel.Lemmas.MapNodes
namespace Adeu.Doc
open Adeu

theorem fmt_eq_of_identical {a b : Run} (h : runsIdentical a b = true) : a.fmt = b.fmt := by
  simp only [runsIdentical, Bool.and_eq_true, beq_iff_eq] at h
  obtain ⟨⟨⟨h1, h2⟩, h3⟩, h4⟩ := h
  simp [Run.fmt, h1, h2, h3, h4]

theorem canonRun_merge {a b : Run} (h : mergeable a b = true) :
    canonRun (mergeRuns a b) = canonRun a ++ canonRun b := by
  simp only [mergeable, Bool.and_eq_true] at h
  have hf := fmt_eq_of_identical h.2
  have hm : (mergeRuns a b).fmt = a.fmt := rfl
  simp only [canonRun, hm]
  simp [mergeRuns, List.flatMap_append, hf]

theorem canonNodes_cons (n : Node) (l : List Node) : canonNodes (n :: l) = canonNode n ++ canonNodes l := by
  simp [canonNodes]

/-- Coalescing changes no content: same characters, formats, marks and elements in the same order. -/
theorem canonNodes_coalesce (l : List Node) : canonNodes (coalesce l) = canonNodes l := by
  fun_induction coalesce l with
  | case1 a b rest h ih =>
    rw [ih]
    simp only [canonNodes_cons, canonNode, canonRun_merge h, List.append_assoc]
  | case2 a b rest h ih =>
    simp only [canonNodes_cons, canonNode] at ih ⊢
    rw [ih]
  | case3 n rest hn ih =>
    simp only [canonNodes_cons, ih]
  | case4 => rfl

theorem canonNodes_stripProof (l : List Node) : canonNodes (l.filter (!isProof ·)) = canonNodes l := by
  induction l with
  | nil => rfl
  | cons n r ih =>
    rw [List.filter_cons]
    split
    · rw [canonNodes_cons, canonNodes_cons, ih]
    · -- what the filter drops is a proofing mark, and that has no canonical content
      rename_i h
      cases n with
      | proof _ => rw [canonNodes_cons, ih]; rfl
      | _ => exact absurd rfl h

theorem runSpecial_merge (a b : Run) : runSpecial (mergeRuns a b) = (runSpecial a || runSpecial b) := by
  simp [runSpecial, mergeRuns, List.any_append]

theorem runsIdentical_merge_left (a b c : Run) : runsIdentical c (mergeRuns a b) = runsIdentical c a := rfl

theorem mergeable_merge_right {a b : Run} (c : Run) (h : mergeable a b = true) :
    mergeable c (mergeRuns a b) = mergeable c a := by
  simp only [mergeable, Bool.and_eq_true, Bool.not_eq_true'] at h
  simp only [mergeable, runSpecial_merge, runsIdentical_merge_left, h.1.1, h.1.2, Bool.or_self]

/-- the head run of a coalesced list starting with run `b` is not mergeable with a run that was
not mergeable with `b` -/
theorem coalesce_head (b : Run) (rest : List Node) :
    ∃ b' rest', coalesce (.run b :: rest) = .run b' :: rest' ∧ (∀ c, mergeable c b' = mergeable c b) := by
  generalize hl : (Node.run b :: rest) = l
  fun_induction coalesce l generalizing b rest with
  | case1 a b2 rest2 h ih =>
    cases hl
    obtain ⟨b', rest', he, hm⟩ := ih (mergeRuns a b2) rest2 rfl
    exact ⟨b', rest', he, fun c => by rw [hm c, mergeable_merge_right c h]⟩
  | case2 a b2 rest2 h ih =>
    cases hl
    exact ⟨a, _, rfl, fun _ => rfl⟩
  | case3 n rest2 hn ih =>
    cases hl
    exact ⟨b, _, rfl, fun _ => rfl⟩
  | case4 => cases hl

/-- coalescing keeps a head that is not a run: a result that starts with a run comes from such a list -/
theorem run_head_of_coalesce {l t : List Node} {b : Run} (h : coalesce l = .run b :: t) : ∃ y ys, l = .run y :: ys := by
  revert h
  fun_cases coalesce l with
  | case1 a c rest _ => exact fun _ => ⟨a, _, rfl⟩
  | case2 a c rest _ => exact fun _ => ⟨a, _, rfl⟩
  | case3 n rest _ => intro h; cases h; exact ⟨b, rest, rfl⟩
  | case4 => intro h; cases h

theorem coalesce_idem (l : List Node) : coalesce (coalesce l) = coalesce l := by
  fun_induction coalesce l with
  | case1 a b rest h ih => exact ih
  | case2 a b rest h ih =>
    obtain ⟨b', rest', he, hm⟩ := coalesce_head b rest
    rw [he] at ih ⊢
    have hn : mergeable a b' = false := by rw [hm a]; simpa using h
    rw [coalesce.eq_1, hn, if_neg Bool.false_ne_true, ih]
  | case3 n rest hn ih =>
    -- `n :: rest` is not two runs in front, so neither is `n :: coalesce rest`: the same equation applies again
    rw [coalesce.eq_2 _ _ fun a b t hna hr => ?_, ih]
    obtain ⟨y, ys, hy⟩ := run_head_of_coalesce hr
    exact hn a y ys hna hy
  | case4 => exact coalesce.eq_3

theorem stream_coalesce :
    (∀ bs, streamBlocks (coalesceBlocks bs) = streamBlocks bs) ∧
    (∀ rs, streamRows (coalesceRows rs) = streamRows rs) ∧
    (∀ cs, streamCells (coalesceCells cs) = streamCells cs) := by
  -- every case: one step of both functions, then the induction hypotheses; a paragraph needs `canonNodes_coalesce`
  apply blocks_induction <;> intros <;>
    simp only [coalesceBlocks, coalesceRows, coalesceCells, streamBlocks, streamRows, streamCells, Para.coalesce,
      canonNodes_coalesce, *]
  -- left: a cell, visited or (`vMerge=continue`) not
  split <;> simp only [streamCells, *]

theorem stream_coalesceBlocks : ∀ bs : List Block, streamBlocks (coalesceBlocks bs) = streamBlocks bs :=
  stream_coalesce.1
theorem stream_coalesceRows : ∀ rs : List Row, streamRows (coalesceRows rs) = streamRows rs :=
  stream_coalesce.2.1
theorem stream_coalesceCells : ∀ cs : List Cell, streamCells (coalesceCells cs) = streamCells cs :=
  stream_coalesce.2.2

theorem stream_stripProof :
    (∀ bs, streamBlocks (stripProofBlocks bs) = streamBlocks bs) ∧
    (∀ rs, streamRows (stripProofRows rs) = streamRows rs) ∧
    (∀ cs, streamCells (stripProofCells cs) = streamCells cs) := by
  -- every case: one step of both functions, then the induction hypotheses; a paragraph needs `canonNodes_stripProof`
  apply blocks_induction <;> intros <;>
    simp only [stripProofBlocks, stripProofRows, stripProofCells, streamBlocks, streamRows, streamCells,
      Para.stripProof, canonNodes_stripProof, *]

theorem stream_stripProofBlocks : ∀ bs : List Block, streamBlocks (stripProofBlocks bs) = streamBlocks bs :=
  stream_stripProof.1
theorem stream_stripProofRows : ∀ rs : List Row, streamRows (stripProofRows rs) = streamRows rs :=
  stream_stripProof.2.1
theorem stream_stripProofCells : ∀ cs : List Cell, streamCells (stripProofCells cs) = streamCells cs :=
  stream_stripProof.2.2

theorem normStories_go_stream (d : Document) : ∀ (ss : List Story) (seen : List Str),
    (normStories.go d seen ss).map (fun s => (s.ty, streamBlocks s.blocks)) =
      ss.map (fun s => (s.ty, streamBlocks s.blocks)) := by
  intro ss
  induction ss with
  | nil => intro seen; simp [normStories.go]
  | cons s rest ih =>
    intro seen
    simp only [normStories.go]
    split
    · simp only [List.map_cons, stream_coalesceBlocks, ih]
    · simp only [List.map_cons, ih]

/-- Loading (normalising) a document changes no content of any story. -/
theorem canonDoc_normalize (d : Document) : canonDoc (normalize d) = canonDoc d := by
  simp only [canonDoc, normalize, normStories, normStories_go_stream, stream_coalesceBlocks,
    stream_stripProofBlocks]

theorem coalesce_noProof (l : List Node) (h : ∀ n ∈ l, (!isProof n) = true) :
    ∀ n ∈ coalesce l, (!isProof n) = true := by
  fun_induction coalesce l with
  | case1 a b rest hm ih =>
    simp only [List.forall_mem_cons] at h ih
    exact ih ⟨rfl, h.2.2⟩
  | case2 a b rest hm ih =>
    simp only [List.forall_mem_cons] at h ih ⊢
    exact ⟨rfl, ih h.2⟩
  | case3 n rest hn ih =>
    simp only [List.forall_mem_cons] at h ⊢
    exact ⟨h.1, ih h.2⟩
  | case4 => exact h

theorem stripProof_coalesce_stripProof (l : List Node) :
    (coalesce (l.filter (!isProof ·))).filter (!isProof ·) = coalesce (l.filter (!isProof ·)) :=
  List.filter_eq_self.mpr (coalesce_noProof _ fun _ hn => (List.mem_filter.mp hn).2)

theorem coalesce_idem_all :
    (∀ bs, coalesceBlocks (coalesceBlocks bs) = coalesceBlocks bs) ∧
    (∀ rs, coalesceRows (coalesceRows rs) = coalesceRows rs) ∧
    (∀ cs, coalesceCells (coalesceCells cs) = coalesceCells cs) := by
  -- every case: two steps of the function, then the induction hypotheses; a paragraph needs `coalesce_idem`
  apply blocks_induction <;> intros <;>
    simp only [coalesceBlocks, coalesceRows, coalesceCells, Para.coalesce, coalesce_idem, *]
  -- left: a cell; the second pass takes the same branch on `vMerge`
  split <;> simp only [coalesceCells, ↓reduceIte, *]

theorem coalesceBlocks_idem : ∀ bs : List Block, coalesceBlocks (coalesceBlocks bs) = coalesceBlocks bs :=
  coalesce_idem_all.1
theorem coalesceRows_idem : ∀ rs : List Row, coalesceRows (coalesceRows rs) = coalesceRows rs :=
  coalesce_idem_all.2.1
theorem coalesceCells_idem : ∀ cs : List Cell, coalesceCells (coalesceCells cs) = coalesceCells cs :=
  coalesce_idem_all.2.2

/-- stripping proofing marks is `mapNodes*` with a filter: what holds of every such map holds of it -/
theorem stripProof_eq_mapNodes :
    (∀ bs, stripProofBlocks bs = mapNodesBlocks (·.filter (!isProof ·)) bs) ∧
    (∀ rs, stripProofRows rs = mapNodesRows (·.filter (!isProof ·)) rs) ∧
    (∀ cs, stripProofCells cs = mapNodesCells (·.filter (!isProof ·)) cs) := by
  -- every case: one step of both functions, then the induction hypotheses
  apply blocks_induction <;> intros <;>
    simp only [stripProofBlocks, stripProofRows, stripProofCells, mapNodesBlocks, mapNodesRows, mapNodesCells,
      Para.stripProof, *]

theorem strip_strip_blocks : ∀ bs : List Block, stripProofBlocks (stripProofBlocks bs) = stripProofBlocks bs := by
  simp only [stripProof_eq_mapNodes.1, mapNodesBlocks_comp, List.filter_filter, Bool.and_self, implies_true]
theorem strip_strip_rows : ∀ rs : List Row, stripProofRows (stripProofRows rs) = stripProofRows rs := by
  simp only [stripProof_eq_mapNodes.2.1, mapNodesRows_comp, List.filter_filter, Bool.and_self, implies_true]
theorem strip_strip_cells : ∀ cs : List Cell, stripProofCells (stripProofCells cs) = stripProofCells cs := by
  simp only [stripProof_eq_mapNodes.2.2, mapNodesCells_comp, List.filter_filter, Bool.and_self, implies_true]

theorem strip_coalesce_strip :
    (∀ bs, stripProofBlocks (coalesceBlocks (stripProofBlocks bs)) = coalesceBlocks (stripProofBlocks bs)) ∧
    (∀ rs, stripProofRows (coalesceRows (stripProofRows rs)) = coalesceRows (stripProofRows rs)) ∧
    (∀ cs, stripProofCells (coalesceCells (stripProofCells cs)) = coalesceCells (stripProofCells cs)) := by
  -- every case: one step of each function, then the induction hypotheses; a paragraph needs
  -- `stripProof_coalesce_stripProof`
  apply blocks_induction <;> intros <;>
    simp only [stripProofBlocks, stripProofRows, stripProofCells, coalesceBlocks, coalesceRows, coalesceCells,
      Para.stripProof, Para.coalesce, stripProof_coalesce_stripProof, *]
  -- left: a cell; coalescing skips a `vMerge=continue` cell, and there the inner strip meets the outer one
  split <;> simp only [stripProofCells, strip_strip_blocks, *]

theorem strip_coalesce_strip_blocks : ∀ bs : List Block,
    stripProofBlocks (coalesceBlocks (stripProofBlocks bs)) = coalesceBlocks (stripProofBlocks bs) :=
  strip_coalesce_strip.1
theorem strip_coalesce_strip_rows : ∀ rs : List Row,
    stripProofRows (coalesceRows (stripProofRows rs)) = coalesceRows (stripProofRows rs) :=
  strip_coalesce_strip.2.1
theorem strip_coalesce_strip_cells : ∀ cs : List Cell,
    stripProofCells (coalesceCells (stripProofCells cs)) = coalesceCells (stripProofCells cs) :=
  strip_coalesce_strip.2.2

theorem normStories_go_idem (d d' : Document) (h1 : d'.titlePg = d.titlePg) (h2 : d'.evenOdd = d.evenOdd) :
    ∀ (ss : List Story) (seen : List Str),
    normStories.go d' seen (normStories.go d seen ss) = normStories.go d seen ss := by
  have hact : ∀ s s' : Story, s'.ty = s.ty → activeStory d' s' = activeStory d s := by
    intro s s' hs; simp only [activeStory, hs, h1, h2]
  intro ss
  induction ss with
  | nil => intro seen; rfl
  | cons s rest ih =>
    intro seen
    rw [normStories.go]
    split
    · rename_i hc
      rw [normStories.go, hact s { s with blocks := coalesceBlocks s.blocks } rfl]
      dsimp only
      rw [if_pos hc, coalesceBlocks_idem, ih]
    · rename_i hc
      rw [normStories.go, hact s s rfl, if_neg hc, ih]

end Adeu.Doc
