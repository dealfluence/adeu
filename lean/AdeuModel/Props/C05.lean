import AdeuModel.Lemmas.Normalize
/-
C05 — opening and saving a document is content-neutral.
`normalize` is the model of `normalize_docx` (what `RedlineEngine.__init__` does to the tree);
python-docx load/save is the identity on the abstract document (checked by the correspondence on
every case: the saved package read back by the independent reader equals `normalize d`, run
boundaries included).
-/
namespace Adeu.Props.C05
open Adeu Adeu.Doc

/-- Same text in the same order, same per-character formatting, same tracked changes with ids,
authors and dates, same comment anchors, same non-text content, same paragraph/table skeleton,
in every story: only run boundaries (and proofing marks) may differ. -/
theorem C05_normalize_canon (d : Document) : canonDoc (normalize d) = canonDoc d :=
  canonDoc_normalize d

/-- Inside one paragraph: merging never moves anything across an intervening element and never
drops an element. -/
theorem C05_paragraph_canon (l : List Node) : canonNodes (coalesce l) = canonNodes l :=
  canonNodes_coalesce l

/-- Run merging only joins immediately adjacent runs with identical formatting and no special
content: a paragraph without such a pair is returned unchanged. -/
theorem C05_merge_adjacent_identical (l : List Node)
    (h : ∀ pre a b rest, l = pre ++ Node.run a :: Node.run b :: rest → mergeable a b = false) :
    coalesce l = l := by
  fun_induction coalesce l with
  | case1 a b rest hm ih =>
    have := h [] a b rest rfl
    simp [hm] at this
  | case2 a b rest hm ih =>
    rw [ih]
    intro pre a' b' rest' he
    exact h (Node.run a :: pre) a' b' rest' (by simp [he])
  | case3 n rest hn ih =>
    rw [ih]
    intro pre a' b' rest' he
    exact h (n :: pre) a' b' rest' (by simp [he])
  | case4 => rfl

/-- Loading twice is the same as loading once (a saved document is stable). -/
theorem C05_idempotent (d : Document) : normalize (normalize d) = normalize d := by
  have hb : coalesceBlocks (stripProofBlocks (coalesceBlocks (stripProofBlocks d.body))) =
      coalesceBlocks (stripProofBlocks d.body) := by
    rw [strip_coalesce_strip_blocks, coalesceBlocks_idem]
  have hh := normStories_go_idem d (normalize d) rfl rfl d.headers []
  have hf := normStories_go_idem d (normalize d) rfl rfl d.footers []
  simp only [normalize, normStories] at hh hf ⊢
  rw [hh, hf, hb]

/-! Non-vacuity: two identical runs separated by a tracked insertion are *not* merged, adjacent
identical runs are. -/
def rA : Run := { b := none, i := none, rest := [], ch := [.t "Hello ".toList] }
def rB : Run := { b := none, i := none, rest := [], ch := [.t "world".toList] }
def insBig : Node := .ins ⟨"1".toList, some "A".toList, none⟩ [.run { b := none, i := none, rest := [], ch := [.t "big ".toList] }]

example : coalesce [.run rA, insBig, .run rB] = [.run rA, insBig, .run rB] := by
  simp [coalesce, insBig]
example : coalesce [.run rA, .run rB, insBig] = [.run (mergeRuns rA rB), insBig] := by decide +kernel

end Adeu.Props.C05
