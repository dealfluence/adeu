import AdeuModel.Model.Engine
namespace Adeu.Doc
open Adeu

theorem natStr_eq_toDigits (n : Nat) : natStr n = Nat.toDigits 10 n := by
  unfold natStr
  show (toString n).toList = _
  rw [Nat.toString_eq_repr, Nat.toList_repr]

theorem strToNat_eq_ofDigitChars (s : Str) : strToNat s = Nat.ofDigitChars 10 s 0 := by
  unfold strToNat
  rw [Nat.ofDigitChars_eq_foldl]
  congr 1
  funext n c
  -- `'0'.toNat` computes to 48; what is left is the order of the factors
  exact congrArg (· + (c.toNat - 48)) (Nat.mul_comm n 10)

theorem strNat?_natStr (n : Nat) : strNat? (natStr n) = some n := by
  unfold strNat?
  have hd : allDigits (natStr n) = true := by
    unfold allDigits
    rw [natStr_eq_toDigits]
    simp only [Bool.and_eq_true, Bool.not_eq_true', List.all_eq_true]
    refine ⟨?_, ?_⟩
    · exact List.isEmpty_eq_false_iff.mpr Nat.toDigits_ne_nil
    · intro c hc
      exact Nat.isDigit_of_mem_toDigits (by decide) (by decide) hc
  rw [if_pos hd, strToNat_eq_ofDigitChars, natStr_eq_toDigits, Nat.ofDigitChars_ten_toDigits]

theorem natStr_inj {a b : Nat} (h : natStr a = natStr b) : a = b := by
  have := strNat?_natStr a
  rw [h, strNat?_natStr] at this
  exact (Option.some.inj this).symm

end Adeu.Doc
