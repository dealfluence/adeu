import AdeuModel.Model.Engine
namespace Adeu.Doc
open Adeu

/-- every run of a paragraph: direct children, runs inside insertions, deletions and hyperlinks -/
def runsOfNode : Node → List Run
  | .run r => [r]
  | .ins _ ch => ch.filterMap fun | .run r => some r | _ => none
  | .del _ rs => rs
  | .hl _ rs => rs
  | _ => []

def runsOfNodes (ns : List Node) : List Run := ns.flatMap runsOfNode

theorem mem_runsOfNodes_of_getElem {ns : List Node} {i : Nat} {n : Node} (h : ns[i]? = some n) {r : Run}
    (hr : r ∈ runsOfNode n) : r ∈ runsOfNodes ns := by
  have hn : n ∈ ns := List.mem_of_getElem? h
  exact List.mem_flatMap.mpr ⟨n, hn, hr⟩

theorem getRun_mem (ns : List Node) (loc : Loc) (r : Run) (h : getRun ns loc = some r) : r ∈ runsOfNodes ns := by
  unfold getRun at h
  split at h
  · rename_i r' hn hs
    cases h
    exact mem_runsOfNodes_of_getElem hn (List.mem_singleton_self r)
  · rename_i rev ch k hn hs
    split at h
    · rename_i r' hc
      cases h
      exact mem_runsOfNodes_of_getElem hn (List.mem_filterMap.mpr ⟨_, List.mem_of_getElem? hc, rfl⟩)
    · cases h
  · rename_i rev runs k hn hs
    exact mem_runsOfNodes_of_getElem hn (List.mem_of_getElem? h)
  · cases h

theorem nextRun_mem (ns : List Node) (loc : Loc) (r : Run) (h : nextRun ns loc = some r) : r ∈ runsOfNodes ns := by
  unfold nextRun at h
  split at h
  · obtain ⟨n, hn, hf⟩ := List.exists_of_findSome?_eq_some h
    cases n <;> cases hf
    exact List.mem_flatMap.mpr ⟨_, List.mem_of_mem_drop hn, List.mem_singleton_self r⟩
  · rename_i k hs
    split at h
    · rename_i rev ch hn
      obtain ⟨c, hc, hf⟩ := List.exists_of_findSome?_eq_some h
      cases c <;> cases hf
      exact mem_runsOfNodes_of_getElem hn (List.mem_filterMap.mpr ⟨_, List.mem_of_mem_drop hc, rfl⟩)
    · rename_i rev runs hn
      exact mem_runsOfNodes_of_getElem hn (List.mem_of_getElem? h)
    · cases h

end Adeu.Doc
