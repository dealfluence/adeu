import AdeuModel.Lemmas.Lines
import AdeuModel.Lemmas.Trim
import AdeuModel.Lemmas.Effective
/-
C02 — accepting the changes yields exactly the requested text.
Part (a): the context-trimming step `_trim_common_context` (model `Adeu.Trim.trim`) never trims
anything that is not common to target and new text — for all strings and every whitespace
predicate.
-/
namespace Adeu.Props.C02
open Adeu Adeu.Trim

/-- The trimmed prefix and suffix fit into both strings and are common to them. -/
theorem C02_trim_contract (sp : Char → Bool) (t n : Str) :
    (trim sp t n).1 + (trim sp t n).2 ≤ min t.length n.length ∧
    t.take (trim sp t n).1 = n.take (trim sp t n).1 ∧
    t.drop (t.length - (trim sp t n).2) = n.drop (n.length - (trim sp t n).2) := by
  obtain ⟨P, T, N, S, rfl, rfl, h⟩ := trim_common sp t n
  rw [h]
  exact ⟨by simp, by simp only [front_split], by simp only [back_split]⟩

/-- Hence replacing the trimmed middle of the target by the trimmed middle of the new text inside
the target gives exactly the new text. -/
theorem C02_trim_reassemble (sp : Char → Bool) (t n : Str) :
    t.take (trim sp t n).1 ++ (n.take (n.length - (trim sp t n).2)).drop (trim sp t n).1 ++
      t.drop (t.length - (trim sp t n).2) = n := by
  obtain ⟨P, T, N, S, rfl, rfl, h⟩ := trim_common sp t n
  simp only [h, front_split, mid_split, back_split]

/-! Part (b): where the engine looks for the target (`Adeu.Doc.locate`, the lookup of
`_apply_single_edit_heuristic`), in terms of the text a client extracts. -/
open Adeu.Doc in
/-- A target that is an exact piece of the raw extracted text and touches no deleted text is located at its
first occurrence there, with exactly its own length: no accepted-view lookup, no fuzzy matcher, whatever the
recorded results of the non-literal matchers are. -/
theorem C02_located_where_read (s : Sess) (e : HEdit) (i : Nat) (hcm : s.cmap = commentsMap s.doc)
    (h : Markup.find e.target (extractText false s.doc) = some i)
    (hd : touchesDeletion (s.spans false) i (i + e.target.length) = false) :
    locate s e = some ⟨false, i, e.target.length⟩ := by
  rw [← spans_text_eq_extractText s _ hcm] at h
  exact locate_exact_raw s e i h hd

open Adeu.Doc in
/-- A target that runs across tracked-deleted text — an exact piece of the accepted view only — is located at
its first occurrence in the accepted view, before any fuzzy lookup in either view. -/
theorem C02_located_in_accepted_view (s : Sess) (e : HEdit) (i : Nat) (hcm : s.cmap = commentsMap s.doc)
    (h1 : Markup.find e.target (extractText false s.doc) = none)
    (h2 : Markup.find (Markup.replaceSmart e.target) (Markup.replaceSmart (extractText false s.doc)) = none)
    (h : Markup.find e.target (extractText true s.doc) = some i) :
    locate s e = some ⟨true, i, e.target.length⟩ := by
  rw [← spans_text_eq_extractText s _ hcm] at h1 h2 h
  exact locate_exact_clean s e i h1 h2 h

/-! Part (c): what reaches the indexed step means the same on the text as what was submitted. -/
open Adeu.Doc in
/-- Trimming the common context, or turning an extension into an insertion, never changes what the edit means on
the text: replacing the effective range by the effective text gives exactly the text with the whole matched range
replaced by the whole new text — for every text, every in-bounds match and every new text. -/
theorem C02_effective_edit_same_text (text : Str) (start len : Nat) (new : Str) (hb : start + len ≤ text.length) :
    (match effectiveEdit text start len new with
     | none => text
     | some (s', l', n') => text.take s' ++ n' ++ text.drop (s' + l')) =
    text.take start ++ new ++ text.drop (start + len) :=
  effectiveEdit_same_text text start len new hb

open Adeu.Doc in
/-- … and `effectiveEdit` is what the model of `_apply_single_edit_heuristic` computes before it calls the indexed
step (directly, or through the rewrite for text inside a pending insertion). -/
theorem C02_heuristic_applies_effective_edit (s : Sess) (m : HMatch) (e : HEdit) :
    heuristicDirect s m e =
      match effectiveEdit (ospansText (s.spans m.clean)) m.start m.len e.new with
      | none => (s, true)
      | some (st, ln, nw) =>
        if ln = 0 then
          match nestedInsertAt s m.clean st nw e.comment with
          | some r => r
          | none => applyIndexed s m.clean st 0 nw e.comment (some .insertion)
        else
          match nestedProxyAt s m.clean st ln nw e.comment with
          | some r => r
          | none => applyIndexed s m.clean st ln nw e.comment (some (if nw.isEmpty then .deletion else .modification)) := by
  -- the `match`es here and in `heuristicDirect_eq` are different auxiliary functions: `exact` would evaluate what they
  -- inspect; with that as variables they unfold to the same case distinctions
  rw [heuristicDirect_eq]
  generalize effectiveEdit _ _ _ _ = o
  rcases o with _ | ⟨st, ln, nw⟩
  · rfl
  · dsimp only
    generalize nestedInsertAt s m.clean st nw e.comment = a
    generalize nestedProxyAt s m.clean st ln nw e.comment = b
    rfl

/-! Test vectors.  Evaluating `String.toList` on a literal is quadratic in the kernel; `String.toList_ofList` reads the
characters off the literal instead. -/
example : Doc.effectiveEdit "Hello big world".toList 0 15 "Hello small world".toList = some (6, 3, "small".toList) := by
  repeat rw [String.toList_ofList]
  decide +kernel

example : trim pyIsSpace "Hello big world".toList "Hello small world".toList = (6, 6) := by
  repeat rw [String.toList_ofList]
  decide +kernel

/-- **A rewritten insertion reads as its replacement text.**  When an edit lands inside a pending insertion the
engine replaces that insertion by one carrying the insertion's text with the range replaced (`nestedText`); when
that text has line breaks it stays one inline insertion (`inlineLines`).  For lines without bold / italic markers,
what the reader extracts from the new insertion is exactly that text (a break as newline, a literal tab as the
space the reader shows for it): no character of the insertion is lost or reordered. -/
theorem C02_rewritten_insertion_reads_as_replacement (text : Str) (style : Option Doc.Run)
    (hp : ∀ l ∈ Doc.splitBreaks text, Doc.PlainLine l) :
    (Doc.inlineLines text style).flatMap Doc.childText = text.map Doc.shown :=
  Doc.inlineLines_text text style hp

/-- splitting at line breaks and joining again gives the text back -/
theorem C02_split_breaks_join (t : Str) : Doc.joinShown (Doc.splitBreaks t) = t.map Doc.shown :=
  Doc.joinShown_splitBreaks t

example : (Doc.inlineLines "brown\nlazy cat ".toList none).flatMap Doc.childText = "brown\nlazy cat ".toList := by
  repeat rw [String.toList_ofList]
  decide +kernel

end Adeu.Props.C02
