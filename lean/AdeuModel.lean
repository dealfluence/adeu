import AdeuModel.Model.Str
import AdeuModel.Model.Diff
import AdeuModel.Model.Trim
import AdeuModel.Model.Json
import AdeuModel.Model.Init
import AdeuModel.Lemmas.List
import AdeuModel.Lemmas.Tiles
import AdeuModel.Lemmas.Diff
import AdeuModel.Lemmas.Trim
import AdeuModel.Lemmas.Init
import AdeuModel.Props.C13
import AdeuModel.Props.C18
import AdeuModel.Model.Doc
import AdeuModel.Model.Extract
import AdeuModel.Model.Normalize
import AdeuModel.Model.Mapper
import AdeuModel.Lemmas.Blocks
import AdeuModel.Lemmas.Text
import AdeuModel.Lemmas.Items
import AdeuModel.Lemmas.Normalize
import AdeuModel.Lemmas.Mapper
import AdeuModel.Props.C05
import AdeuModel.Props.C03
import AdeuModel.Lemmas.Extract
import AdeuModel.Props.C04
import AdeuModel.Props.C02
import AdeuModel.Model.Review
import AdeuModel.Model.Engine
import AdeuModel.Lemmas.Engine
import AdeuModel.Lemmas.Review
import AdeuModel.Props.C01
import AdeuModel.Props.C06
import AdeuModel.Props.C08
import AdeuModel.Props.C09
import AdeuModel.Props.C10
import AdeuModel.Lemmas.Style
import AdeuModel.Props.C16
import AdeuModel.Model.WordTable
import AdeuModel.Lemmas.Script
import AdeuModel.Props.C12
import AdeuModel.Model.Markup
import AdeuModel.Lemmas.Markup
import AdeuModel.Props.C14
import AdeuModel.Props.C15
import AdeuModel.Model.Tools
import AdeuModel.Props.C17
import AdeuModel.Model.Package
import AdeuModel.Props.C11
import AdeuModel.Model.Heuristic
import AdeuModel.Lemmas.Stream
import AdeuModel.Lemmas.Frame
import AdeuModel.Lemmas.Grow
import AdeuModel.Lemmas.Revs
import AdeuModel.Lemmas.Attr
import AdeuModel.Lemmas.Reach
import AdeuModel.Model.History
import AdeuModel.Lemmas.MapNodes
import AdeuModel.Lemmas.History
import AdeuModel.Lemmas.AttrHistory
import AdeuModel.Lemmas.Effective
import AdeuModel.Props.C07
import AdeuModel.Lemmas.NatStr
import AdeuModel.Lemmas.Lines
import AdeuModel.Lemmas.ComGrow
import AdeuModel.Lemmas.LGrow
import AdeuModel.Lemmas.ExtractDoc
import AdeuModel.Lemmas.MetaIds
import AdeuModel.Lemmas.ExtractTags
import AdeuModel.Lemmas.Threads
import AdeuModel.Lemmas.ShownWith
import AdeuModel.Lemmas.QuietPara
import AdeuModel.Lemmas.InlineMd
import AdeuModel.Lemmas.NewComment
import AdeuModel.Lemmas.ExtractAll
