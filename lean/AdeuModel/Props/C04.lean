import AdeuModel.Lemmas.Mapper
import AdeuModel.Lemmas.MetaIds
import AdeuModel.Lemmas.ExtractAll
/-
C04 — the text projection is complete, ordered and correctly annotated.
Statements about `Adeu.Doc.extractText`, the model of `extract_text_from_stream`.
-/
namespace Adeu.Props.C04
open Adeu Adeu.Doc Adeu.Markup

/-- Accepted view of a paragraph = the formatted segment of every run that is not inside a
deletion, each exactly once and in document order; no annotation, no deleted text, nothing else. -/
theorem C04_clean_complete (cm : CMap) (p : Para) : paraText true cm p = cleanSegs [] (items p) :=
  paraText_clean cm p

/-- Document order: headers, then body, then footers; blocks separated by blank lines, tables
row-major with ` | ` between cells; empty tables and empty parts contribute nothing. (The layout
is the definition; what is proved is that it is the same layout the engine indexes.) -/
theorem C04_layout_is_indexed_layout (clean : Bool) (d : Document) :
    extractText clean d = mapperText clean d :=
  (mapperText_eq_extractText clean d).symm

/-- Bold/italic markers never enclose a line break. -/
theorem C04_marker_no_newline (r : Run) (h : runText r ≠ [])
    (hm : ¬ ((runMarkers r).1.isEmpty ∧ (runMarkers r).2.isEmpty)) :
    splitNl (applyFormatting (runText r) (runMarkers r).1 (runMarkers r).2) =
      (splitNl (runText r)).map fun p => if p.isEmpty then [] else (runMarkers r).1 ++ p ++ (runMarkers r).2 := by
  -- the markers are made of `*` and `_`, whichever of bold and italic is on
  have hn : '\n' ∉ (runMarkers r).1 ∧ '\n' ∉ (runMarkers r).2 := by
    unfold runMarkers
    cases onOffTrue r.b <;> cases onOffTrue r.i <;> decide
  exact splitNl_applyFormatting _ _ _ hn.1 hn.2


/-! ### the raw view: annotation, flat balanced delimiters, reading it with everything accepted -/

/-- Balanced and never nested: the raw view of a paragraph is the rendering of a *flat* list of
segments (plain text, `{--…--}`, `{++…++}`, `{==…==}`, `{>>…<<}`), each closed before the next opens. -/
theorem C04_raw_is_flat_markup (cm : CMap) (p : Para) : paraText false cm p = render (rawSegs cm p) :=
  paraText_raw_render cm p

/-- Annotation: every character of every run appears exactly once, in document order, in the kind of
block that the revision marks and comment ranges open at its run call for (deleted, else inserted, else
commented, else bare); metadata blocks carry no text character of the document. -/
theorem C04_raw_annotation (cm : CMap) (p : Para) : tagsOf (rawSegs cm p) = taggedSpec [] [] [] (items p) :=
  rawSegs_tagged cm p

/-- Identifier listing: the metadata blocks of the raw view are, in order, the renderings of groups of
snapshots (empty renderings leave no block) … -/
theorem C04_meta_blocks_are_rendered_groups (cm : CMap) (p : Para) :
    notesOf (rawSegs cm p) = blocksOf cm (metaGroups cm p) :=
  rawSegs_notes cm p

/-- … and the groups hold, taken together and in document order, exactly one snapshot of the open
insertions, deletions and comment ranges per run that carries text: a tracked change or a comment range
gets its identifier listed only through a text-carrying run it encloses, and every such run lists all of
its open marks (the renderer `metaBlock` writes `[Chg:id]` for every insertion / deletion of a snapshot and
the thread of every comment id of it, each signature once per block). -/
theorem C04_listed_marks_are_those_open_at_text (cm : CMap) (p : Para) :
    (metaGroups cm p).flatten = snapSpec [] [] [] (items p) :=
  metaGroups_flatten cm p

/-- Inside one metadata block: its change lines are `chgLines` of its snapshots (whatever comments they carry),
one line per listed id, no id twice, and an id is listed iff that insertion / deletion is open in one of the
block's snapshots.  With the two theorems above: a tracked change is listed in the raw view of a paragraph
iff it encloses a run that carries text. -/
theorem C04_block_lists_open_changes_once (cm : CMap) (states : List Snap) :
    metaBlock cm states = joinWith ['\n'] (chgLines states ++ (states.foldl (metaStep cm) ([], [], [])).2.1) ∧
    (chgIds states).Nodup ∧ (chgLines states).length = (chgIds states).length ∧
    ∀ id, id ∈ chgIds states ↔ ∃ s ∈ states, id ∈ (s.ins ++ s.del).map (·.1) :=
  ⟨(metaFold_lines cm states).2 ▸ metaBlock_split cm states, chgIds_spec states⟩

/-- … and its comment lines (the second part of the same `joinWith`) hold a line `[Com:id] …` for every comment that one of
the block's snapshots has open and that the comment map knows; replies follow their parent (C10_reply_shown_with_thread).
With C04_listed_marks_are_those_open_at_text: a comment anchored on a text-carrying run is listed behind that text. -/
theorem C04_block_lists_anchored_comments (cm : CMap) (states : List Snap) (s : Snap) (hs : s ∈ states) (cid : Str)
    (hc : cid ∈ s.comments) (d : CData) (hd : cmGet cm cid = some d) :
    ∃ l ∈ (states.foldl (metaStep cm) ([], [], [])).2.1, comHead cid <+: l :=
  (metaFold_lines cm states).2 ▸ comLines_lists cm states s hs cid hc d hd

/-- Resolving every annotation of the raw view as 'accept' gives the accepted view, character for character. -/
theorem C04_accept_raw_eq_clean (cm : CMap) (p : Para) : acceptView (rawSegs cm p) = paraText true cm p :=
  rawSegs_accept cm p

/-- The same through the CriticMarkup reader on the *string* the client receives (texts, authors and
comment texts without braces). -/
theorem C04_paragraph_read_accepted (cm : CMap) (p : Para) (hb : braceFreeB (rawSegs cm p) = true) :
    (parse (paraText false cm p)).map acceptView = some (paraText true cm p) :=
  (para_reads cm p hb).parse

/-- Whole documents: headers, body with nested and merged tables, footers.  `domDoc` = brace-free texts
and no container (table, story) that is empty in the accepted view but not in the raw view - the domain
of the open finding F-deleted-only-container, see the counterexample below. -/
theorem C04_document_read_accepted_partial (d : Document) (h : domDoc d = true) :
    (parse (extractText false d)).map acceptView = some (extractText true d) :=
  (doc_reads d h).parse

theorem C04_document_flat_balanced_partial (d : Document) (h : domDoc d = true) :
    ∃ segs : List Seg, extractText false d = render segs ∧ BraceFree segs ∧
      parse (extractText false d) = some (normAcc [] segs) := by
  obtain ⟨segs, r, _, b⟩ := doc_reads d h
  exact ⟨segs, r, b, by rw [r, parse_render segs b]⟩

/-- Annotation for whole documents (headers, body with nested and merged tables, footers), no hypothesis: the raw view
is the rendering of a flat segment list whose text characters - tagged deleted / inserted / commented / bare by the
block they stand in - are exactly `docTagged d`: every run's formatted segment tagged by the marks open at that run,
heading prefixes and separators bare, containers that the raw view drops as empty dropped; in document order, once. -/
theorem C04_document_annotation (d : Document) :
    ∃ segs : List Seg, extractText false d = render segs ∧ tagsOf segs = docTagged d :=
  doc_tagged d

/-- Completeness of the accepted view for whole documents (domain `domDoc`): it is, character for character and in document
order, the characters of the document's tagged text (C04_document_annotation) that are not tagged deleted - every run's
formatted segment outside deletions, heading prefixes, separators - no annotation, nothing else, nothing twice. (One segment
list carries the raw string, its accepted reading and its tags: `doc_reads3`.) -/
theorem C04_accepted_view_is_undeleted_characters_partial (d : Document) (h : domDoc d = true) :
    extractText true d = keptChars (docTagged d) := by
  obtain ⟨segs, _, c, _, t⟩ := doc_reads3 d h
  rw [← c, ← t]
  exact acceptView_eq_kept segs

/-! Non-vacuity: a paragraph with a deletion, an insertion and a bold run with a line break. -/
def samplePara : Para :=
  { style := none, ppr := [], nodes :=
    [.run { b := none, i := none, rest := [], ch := [.t "keep ".toList] },
     .del ⟨"1".toList, some "A".toList, none⟩ [{ b := none, i := none, rest := [], ch := [.dt "old ".toList] }],
     .ins ⟨"2".toList, some "A".toList, none⟩ [.run { b := none, i := none, rest := [], ch := [.t "new ".toList] }],
     .run { b := some [], i := none, rest := [], ch := [.t "a".toList, .br, .t "b".toList] }] }

/-! Evaluating `String.toList` on a literal is quadratic in the kernel; `String.toList_ofList` reads the characters off the
literal instead. -/
example : paraText true [] samplePara = "keep new **a**\n**b**".toList := by
  rw [String.toList_ofList]
  decide +kernel
example : paraText false [] samplePara =
    "keep {--old --}{++new ++}{>>[Chg:1] A\n[Chg:2] A<<}**a**\n**b**".toList := by
  rw [String.toList_ofList]
  decide +kernel

example : rawSegs [] samplePara =
    [.plain "keep ".toList, .del "old ".toList, .ins "new ".toList, .note "[Chg:1] A\n[Chg:2] A".toList,
     .plain "**a**\n**b**".toList] := by
  repeat rw [String.toList_ofList]
  decide +kernel
example : braceFreeB (rawSegs [] samplePara) = true := by decide +kernel
example : chgIds [⟨[], [("1".toList, some "A".toList)], []⟩, ⟨[("2".toList, some "A".toList)], [("1".toList, some "A".toList)], []⟩] =
    ["1".toList, "2".toList] := by decide +kernel
example : metaGroups [] samplePara =
    [[⟨[], [], []⟩], [⟨[], [("1".toList, some "A".toList)], []⟩, ⟨[("2".toList, some "A".toList)], [], []⟩],
     [⟨[], [], []⟩]] := by decide +kernel

def sampleDoc : Document :=
  { headers := [], footers := [], titlePg := false, evenOdd := false, comments := [], commentsEx := [], hasExtended := false,
    body := [.para samplePara,
      .table [] [] [.mk [] [.mk [] 1 .none [.para samplePara], .mk [] 1 .none [.para { style := none, ppr := [], nodes := [] }]]]] }

/-- a table whose only text is tracked-deleted: shown in the raw view, dropped from the accepted view -/
def deletedOnlyDoc : Document :=
  { sampleDoc with body := [.para samplePara,
      .table [] [] [.mk [] [.mk [] 1 .none [.para { style := none, ppr := [], nodes :=
        [.del ⟨"3".toList, some "A".toList, none⟩ [{ b := none, i := none, rest := [], ch := [.dt "gone".toList] }]] }]]]] }

/-- non-vacuity of the document-level theorem: a document with a redlined paragraph and a table meets `domDoc` -/
theorem sampleDoc_in_domain : domDoc sampleDoc = true := by
  simp only [domDoc, docParts, sampleDoc, storyOf, List.find?, domBlocks, domRows, domCells, tableText, rowsCellTexts,
    cellsTexts, blocksText, containerText, List.map, List.all, List.nil_append, List.append_nil, Bool.false_eq_true, ↓reduceIte]
  decide +kernel

example : (parse (extractText false sampleDoc)).map acceptView = some (extractText true sampleDoc) :=
  C04_document_read_accepted_partial sampleDoc sampleDoc_in_domain

theorem deletedOnlyDoc_texts :
    extractText false deletedOnlyDoc =
      "keep {--old --}{++new ++}{>>[Chg:1] A\n[Chg:2] A<<}**a**\n**b**\n\n{--gone--}{>>[Chg:3] A<<}".toList ∧
    extractText true deletedOnlyDoc = "keep new **a**\n**b**".toList := by
  -- the two long literals are read off while the goal is small; the short ones inside the document are left to the kernel
  rw [String.toList_ofList, String.toList_ofList]
  simp only [extractText, docParts, deletedOnlyDoc, sampleDoc, storyOf, List.find?, tableText, rowsCellTexts,
    cellsTexts, blocksText, containerText, List.map, List.filter, List.nil_append, List.append_nil, Bool.false_eq_true, ↓reduceIte]
  decide +kernel

/-- The hypothesis of the document-level theorem is needed: for a table whose only text is tracked-deleted
the raw view read with everything accepted keeps the separator of the (now empty) table, the accepted
view drops the table.  Same witness as the open finding F-deleted-only-container, replayed on the
implementation by this check. -/
theorem C04_deleted_only_container_counterexample :
    domDoc deletedOnlyDoc = false ∧
    (parse (extractText false deletedOnlyDoc)).map acceptView ≠ some (extractText true deletedOnlyDoc) := by
  have h : (parse (extractText false deletedOnlyDoc)).map acceptView ≠ some (extractText true deletedOnlyDoc) := by
    rw [deletedOnlyDoc_texts.1, deletedOnlyDoc_texts.2, String.toList_ofList, String.toList_ofList]
    decide +kernel
  -- outside the domain, since inside it the reading theorem holds
  refine ⟨?_, h⟩
  cases hd : domDoc deletedOnlyDoc with
  | false => rfl
  | true => exact absurd (C04_document_read_accepted_partial _ hd) h

/-! ### the other two open findings, as theorems about the model (witnesses replayed on the implementation) -/

def plainRun (s : String) : Run := { b := none, i := none, rest := [], ch := [.t s.toList] }
def cellP (vm : VM) (s : String) : Cell :=
  .mk [] 1 vm [.para { style := none, ppr := [], nodes := if s.isEmpty then [] else [.run (plainRun s)] }]

/-- a 2 x 2 table whose first column is vertically merged: the merged cell holds "Alpha" once -/
def vmergeDoc : Document :=
  { headers := [], footers := [], titlePg := false, evenOdd := false, comments := [], commentsEx := [], hasExtended := false,
    body := [.table [] [] [.mk [] [cellP .restart "Alpha", cellP .none "Beta"], .mk [] [cellP .continue_ "", cellP .none "Gamma"]]] }

/-- F-vmerge-dup: "every visible character exactly once" fails for vertically merged cells - the reader (like
python-docx's `row.cells`) presents the merged cell once per spanned row. -/
theorem C04_vmerge_duplicate_counterexample : extractText true vmergeDoc = "Alpha | Beta\nAlpha | Gamma".toList := by
  rw [String.toList_ofList]
  simp only [extractText, docParts, vmergeDoc, cellP, plainRun, storyOf, List.find?, tableText, rowsCellTexts, cellsTexts,
    blocksText, containerText, List.map, List.filter, List.nil_append, List.append_nil, Bool.false_eq_true, ↓reduceIte]
  decide +kernel

/-- a comment range that encloses no run (a point comment), with its reference run -/
def pointPara : Para :=
  { style := none, ppr := [], nodes := [.run (plainRun "Before "), .cs "5".toList, .ce "5".toList,
      .run { b := none, i := none, rest := [], ch := [.cref "5".toList] }, .run (plainRun "after")] }

/-- F-point-comment: the comment is anchored in the text but neither shown nor listed - no text-carrying run lies inside
its range, and identifiers are listed only through such runs (C04_listed_marks_are_those_open_at_text). -/
theorem C04_point_comment_counterexample :
    paraText false [("5".toList, ⟨"Q7".toList, "note".toList, [], false, none⟩)] pointPara = "Before after".toList := by
  decide +kernel

end Adeu.Props.C04
