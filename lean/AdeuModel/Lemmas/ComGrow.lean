import AdeuModel.Lemmas.History
import AdeuModel.Lemmas.List
import AdeuModel.Lemmas.NatStr

namespace Adeu.Doc
open Adeu

/-- a comment entry written by the session between `s` and `s'`: the session's author, no parent attribute, not
resolved, one paragraph, an id handed out from the session's counter -/
def NewCom (s s' : Sess) (c : Comment) : Prop :=
  c.author = some s.author ∧ c.legacyParent = none ∧ c.doneAttr = none ∧ c.paras.length = 1 ∧
    ∃ k, s.nextCom ≤ k ∧ k < s'.nextCom ∧ c.id = natStr k

/-- `Grows`, and every comment entry of `s'` is one of `s`'s or was written by this session (`NewCom`); the ids of the
added entries are the numerals the counter handed out, in order -/
structure CGrows (s s' : Sess) : Prop where
  grows : Grows s s'
  coms : ∀ c ∈ s'.doc.comments, c ∈ s.doc.comments ∨ NewCom s s' c
  ids : (s'.doc.comments.drop s.doc.comments.length).map (·.id) =
    (List.range' s.nextCom (s'.nextCom - s.nextCom)).map natStr

theorem CGrows.refl (s : Sess) : CGrows s s := ⟨Grows.refl s, fun _ hc => Or.inl hc, by simp⟩

theorem CGrows.trans {a b c : Sess} (h1 : CGrows a b) (h2 : CGrows b c) : CGrows a c := by
  have n1 := h1.grows.nextCom
  have n2 := h2.grows.nextCom
  refine ⟨h1.grows.trans h2.grows, fun x hx => ?_, ?_⟩
  · rcases h2.coms x hx with h | ⟨p1, p2, p3, p4, k, k1, k2, k3⟩
    · exact (h1.coms x h).imp_right fun ⟨p1, p2, p3, p4, k, k1, k2, k3⟩ => ⟨p1, p2, p3, p4, k, k1, Nat.lt_of_lt_of_le k2 n2, k3⟩
    · exact Or.inr ⟨by rw [p1, h1.grows.author], p2, p3, p4, k, Nat.le_trans n1 k1, k2, k3⟩
  · -- the ids added from `a` to `c` are those added up to `b` followed by those added after `b`
    rw [drop_of_prefixes h1.grows.comments h2.grows.comments, List.map_append, h1.ids, h2.ids, ← List.map_append,
      ← Nat.sub_add_sub_cancel n2 n1, Nat.add_comm, ← List.range'_append_1, Nat.add_sub_cancel' n1]

theorem CGrows_of_still {s s' : Sess} (h : Still s s') : CGrows s s' :=
  ⟨h.grows, fun c hc => Or.inl (h.comments ▸ hc), by rw [h.comments, h.nextCom]; simp⟩

theorem CGrows_modPara (s : Sess) (pp : PPath) (f : Para → Para × List Block) (hf : ParaKeep f) :
    CGrows s { s with doc := modPara s.doc pp f } :=
  CGrows_of_still (Still_modPara s pp f hf)

theorem CGrows_addComment (s : Sess) (text : Str) (parent : Option Str) : CGrows s (s.addComment text parent).1 := by
  have hg := Grows_addComment s text parent
  have h := addComment_spec s text parent
  -- from here on only what `addComment_spec` says of the result is used
  generalize s.addComment text parent = r at hg h
  refine ⟨hg, fun c hm => ?_, ?_⟩
  · rw [h.comments, List.mem_append, List.mem_singleton] at hm
    refine hm.imp_right fun e => ?_
    subst e
    exact ⟨rfl, rfl, rfl, rfl, s.nextCom, Nat.le_refl _, h.nextCom ▸ Nat.lt_succ_self _, h.id⟩
  · rw [h.comments, List.drop_left, h.nextCom, Nat.add_sub_cancel_left]
    exact congrArg (· :: []) h.id

theorem CGrows_mapBody (s : Sess) (g : List Node → List Node) :
    CGrows s { s with doc := { s.doc with body := mapNodesBlocks g s.doc.body } } :=
  CGrows_of_still (Still_setBody s _ (skel_mapNodesBlocks g _))

theorem CGrows_of_reach {s0 s : Sess} (h : Reach s0 s) : CGrows s0 s := by
  induction h with
  | start => exact .refl s0
  | still _ hs _ ih => exact ih.trans (CGrows_of_still hs)
  | addComment t p _ ih => exact ih.trans (CGrows_addComment _ t p)

theorem CGrows_foldl_trackDelete (ts : List RunRef) : ∀ s : Sess, CGrows s (ts.foldl (fun acc t => (trackDelete acc t).1) s) :=
  fun s => CGrows_of_reach (Reach.step_foldl_trackDelete ts s .start)

theorem nextCommentId_gt (d : Document) (c : Comment) (k : Nat) (hc : c ∈ d.comments) (hk : strNat? c.id = some k) :
    k < nextCommentId d := by
  refine Nat.lt_succ_of_le ((foldl_max _ (fun m c => ?_) d.comments 0).2 c hc k fun m => ?_)
  · split
    · exact Nat.le_max_left _ _
    · exact Nat.le_refl _
  · rw [hk]; exact Nat.le_max_right _ _

/-- **Who wrote the comment entries of the result.**  After any batch (literal or searched targets, applied or
skipped) every entry of the comments part is an entry the opened document already had, or an entry written by this
run: this run's author, no parent attribute, not resolved, one paragraph, and a numeric id above every numeric id
the document carried - so it cannot be taken for (or collide with) an existing comment. -/
theorem new_comments_of_reach {d : Document} {author date : Str} {s : Sess} (h : Reach (Sess.open d author date) s)
    (c : Comment) (hc : c ∈ s.doc.comments) :
    c ∈ (normalize d).comments ∨
      (c.author = some author ∧ c.legacyParent = none ∧ c.doneAttr = none ∧ c.paras.length = 1 ∧
        ∃ k, c.id = natStr k ∧ ∀ c' ∈ (normalize d).comments, ∀ k', strNat? c'.id = some k' → k' < k) := by
  rcases (CGrows_of_reach h).coms c hc with h | ⟨p1, p2, p3, p4, k, k1, _, k3⟩
  · exact Or.inl h
  · refine Or.inr ⟨p1, p2, p3, p4, k, k3, fun c' hc' k' hk' => ?_⟩
    exact Nat.lt_of_lt_of_le (nextCommentId_gt (normalize d) c' k' hc' hk') k1

theorem new_comments_attributed_indexed (d : Document) (author date : Str) (edits : List IEdit) (c : Comment)
    (hc : c ∈ (applyEditsIndexed (Sess.open d author date) edits).1.doc.comments) :
    c ∈ (normalize d).comments ∨
      (c.author = some author ∧ c.legacyParent = none ∧ c.doneAttr = none ∧ c.paras.length = 1 ∧
        ∃ k, c.id = natStr k ∧ ∀ c' ∈ (normalize d).comments, ∀ k', strNat? c'.id = some k' → k' < k) :=
  new_comments_of_reach (Reach_applyEditsIndexed _ edits) c hc

theorem comments_stepDoc (d : Document) (st : Step) : ∀ c ∈ (stepDoc d st).1.comments,
    c ∈ d.comments ∨ ∃ a ∈ sessionAuthors [st], c.author = some a := by
  intro c hc
  obtain ⟨a, s, hs, e, ha, _⟩ := stepDoc_reach d st
  rw [e] at hc
  -- a new entry has an id the round handed out, so the round is one that hands out comment ids
  exact ((CGrows_of_reach hs).coms c hc).imp_right fun ⟨h1, _, _, _, k, k1, k2, _⟩ =>
    ⟨a, ha.resolve_right fun e => Nat.lt_irrefl k (Nat.lt_of_lt_of_le (e ▸ k2) k1), h1⟩

theorem ids_unique_of_CGrows {s s' : Sess} (h : CGrows s s')
    (hold : ∀ c ∈ s.doc.comments, ∀ k, strNat? c.id = some k → k < s.nextCom)
    (hn : (s.doc.comments.map (·.id)).Nodup) : (s'.doc.comments.map (·.id)).Nodup := by
  obtain ⟨x, hx⟩ := h.grows.comments
  have hi := h.ids
  rw [← hx] at hi ⊢
  rw [List.drop_left] at hi
  rw [List.map_append, hi, List.nodup_append]
  refine ⟨hn, ?_, ?_⟩
  · exact List.Pairwise.map natStr (fun a b hab hs => hab (natStr_inj hs)) (List.nodup_range' (step := 1))
  · intro a ha b hb hab
    obtain ⟨c, hc, rfl⟩ := List.mem_map.mp ha
    obtain ⟨k, hk, rfl⟩ := List.mem_map.mp hb
    -- an old entry with the numeral `k` as id has `k` below the counter, the new numerals start at it
    exact Nat.not_lt_of_le (List.mem_range'_1.mp hk).1 (hold c hc k (by rw [hab]; exact strNat?_natStr k))

/-- **Comment ids stay unique.**  If the comment ids of the opened document are pairwise distinct, so are those of
the result of any batch: the ids of the entries a run adds are consecutive numerals from its counter, which starts
above every numeric id the document carries. -/
theorem comment_ids_unique_of_reach {d : Document} {author date : Str} {s : Sess} (h : Reach (Sess.open d author date) s)
    (hn : ((normalize d).comments.map (·.id)).Nodup) : (s.doc.comments.map (·.id)).Nodup :=
  ids_unique_of_CGrows (CGrows_of_reach h) (fun c hc k hk => nextCommentId_gt (normalize d) c k hc hk) hn

end Adeu.Doc
