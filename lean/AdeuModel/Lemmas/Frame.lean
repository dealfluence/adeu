import AdeuModel.Model.Heuristic
import AdeuModel.Lemmas.Engine
import AdeuModel.Lemmas.Stream
/-
Frame lemmas for the engine model: what `applyIndexed` / `applyHeuristic` / `applyEdits` leave alone.
Every change the engine makes to a story goes through `modPara` (one paragraph's child list, plus new
paragraphs behind it) or through `rejectChange`; comments are only appended.
Each layer above the single operations is walked once, for what it can come to: the indexed step and the searched
step, which reaches the session only through the indexed step (`Indexed`), a round of a batch loop (`Round`); the frame
of a skipped edit, the accounting and the induction over a batch (which Lemmas/Reach uses for the moves of the engine)
are read off these.
-/
namespace Adeu.Doc
open Adeu

/-- a paragraph update that changes neither properties nor content (at most run boundaries) and adds no paragraph -/
def ParaNeutral (f : Para → Para × List Block) : Prop :=
  ∀ p, (f p).2 = [] ∧ (f p).1.style = p.style ∧ (f p).1.ppr = p.ppr ∧ canonNodes (f p).1.nodes = canonNodes p.nodes

theorem ParaNeutral.stream {f : Para → Para × List Block} (hf : ParaNeutral f) (p : Para) :
    streamBlocks [.para p] = streamBlocks (.para (f p).1 :: (f p).2) := by
  obtain ⟨h1, h2, h3, h4⟩ := hf p
  simp only [streamBlocks, h1, h2, h3, h4]

theorem stream_modBlocks (f : Para → Para × List Block) (hf : ParaNeutral f) :
    ∀ (path : List Nat) (bs : List Block), streamBlocks (modBlocks f path bs) = streamBlocks bs :=
  fun path bs => ((StreamRel.eq.mod f hf.stream).1 path bs).symm

theorem stream_modRows (f : Para → Para × List Block) (hf : ParaNeutral f) :
    ∀ (ri ci : Nat) (more : List Nat) (rows : List Row), streamRows (modRows f ri ci more rows) = streamRows rows :=
  fun ri ci more rows => ((StreamRel.eq.mod f hf.stream).2.1 ri ci more rows).symm

theorem stream_modCells (f : Para → Para × List Block) (hf : ParaNeutral f) :
    ∀ (ci : Nat) (more : List Nat) (cells : List Cell), streamCells (modCells f ci more cells) = streamCells cells :=
  fun ci more cells => ((StreamRel.eq.mod f hf.stream).2.2 ci more cells).symm

theorem modFirstStory_stream (ty : Str) (g : List Block → List Block) (hg : ∀ bs, streamBlocks (g bs) = streamBlocks bs) :
    ∀ ss : List Story, (modFirstStory ty g ss).map (fun s => (s.ty, streamBlocks s.blocks)) =
      ss.map (fun s => (s.ty, streamBlocks s.blocks)) := by
  intro ss
  induction ss with
  | nil => simp [modFirstStory]
  | cons s rest ih =>
    simp only [modFirstStory]
    split
    · simp [hg]
    · simp [ih]

theorem canonDoc_modPart (d : Document) (pi : Nat) (g : List Block → List Block)
    (hg : ∀ bs, streamBlocks (g bs) = streamBlocks bs) : canonDoc (modPart d pi g) = canonDoc d := by
  unfold modPart
  split <;> simp [canonDoc, hg, modFirstStory_stream _ g hg]

/-- a content-neutral paragraph update leaves the canonical content of every story as it is -/
theorem canonDoc_modPara (d : Document) (pp : PPath) (f : Para → Para × List Block) (hf : ParaNeutral f) :
    canonDoc (modPara d pp f) = canonDoc d := by
  cases pp with
  | nil => rfl
  | cons pi rest => exact canonDoc_modPart d pi (modBlocks f rest) (stream_modBlocks f hf rest)

theorem canonNodes_replaceRun (ns : List Node) (loc : Loc) (top : Run → List Node) (inIns : Run → List InsChild)
    (inDel : Run → List Run)
    (h1 : ∀ r, (top r).flatMap canonNode = canonRun r)
    (h2 : ∀ r, (inIns r).flatMap canonInsChild = canonRun r)
    (h3 : ∀ r, (inDel r).flatMap canonRun = canonRun r) :
    canonNodes (replaceRun ns loc top inIns inDel) = canonNodes ns :=
  (StreamRel.eq.replaceRun ns loc top inIns inDel (fun r => (h1 r).symm) (fun r => (h2 r).symm) (fun r => (h3 r).symm)).symm

theorem canonNodes_splitRunAt (ns : List Node) (loc : Loc) (k : Nat) :
    canonNodes (splitRunAt ns loc k).1 = canonNodes ns := by
  have h : (splitRunAt ns loc k).1 = replaceRun ns loc
      (fun r => let (a, b) := splitRun r k; [.run a, .run b])
      (fun r => let (a, b) := splitRun r k; [.run a, .run b])
      (fun r => let (a, b) := splitRun r k; [a, b]) := by
    unfold splitRunAt; split <;> rfl
  rw [h]
  apply canonNodes_replaceRun
  · intro r; simp [canonNode, canonRun_splitRun]
  · intro r; simp [canonInsChild, canonRun_splitRun]
  · intro r; simp [canonRun_splitRun]

/-- everything observable of a session except run boundaries: canonical content of every story, the four
comment lists, the story selection flags, and the session's own counters -/
def Sess.frame (s : Sess) :=
  (canonDoc s.doc, s.doc.comments, s.doc.commentsEx, s.doc.commentsIds, s.doc.commentsCex,
   s.doc.hasExtended, s.doc.titlePg, s.doc.evenOdd, s.author, s.date, s.nextRev, s.nextCom, s.fresh)

/-- `d'` differs from `d` in its stories at most -/
structure StoriesOnly (d d' : Document) : Prop where
  comments : d'.comments = d.comments
  commentsEx : d'.commentsEx = d.commentsEx
  commentsIds : d'.commentsIds = d.commentsIds
  commentsCex : d'.commentsCex = d.commentsCex
  hasExtended : d'.hasExtended = d.hasExtended
  titlePg : d'.titlePg = d.titlePg
  evenOdd : d'.evenOdd = d.evenOdd

theorem StoriesOnly_modPart (d : Document) (pi : Nat) (g : List Block → List Block) : StoriesOnly d (modPart d pi g) := by
  unfold modPart
  split <;> exact ⟨rfl, rfl, rfl, rfl, rfl, rfl, rfl⟩

theorem StoriesOnly_modPara (d : Document) (pp : PPath) (f : Para → Para × List Block) : StoriesOnly d (modPara d pp f) := by
  cases pp with
  | nil => exact ⟨rfl, rfl, rfl, rfl, rfl, rfl, rfl⟩
  | cons pi rest => exact StoriesOnly_modPart d pi (modBlocks f rest)

theorem splitRun_frame (s : Sess) (r : RunRef) (k : Nat) : (s.splitRun r k).1.frame = s.frame := by
  unfold Sess.splitRun
  split
  · rfl
  · simp only [Sess.frame]
    have hN : ParaNeutral (fun p : Para => ({ p with nodes := (splitRunAt p.nodes r.loc k).1 }, ([] : List Block))) := by
      intro p; exact ⟨rfl, rfl, rfl, canonNodes_splitRunAt p.nodes r.loc k⟩
    obtain ⟨h1, h2, h3, h4, h5, h6, h7⟩ := StoriesOnly_modPara s.doc r.para
      (fun p : Para => ({ p with nodes := (splitRunAt p.nodes r.loc k).1 }, ([] : List Block)))
    simp only [canonDoc_modPara _ _ _ hN, h1, h2, h3, h4, h5, h6, h7]

theorem frame_of_splitRun {s s' : Sess} {r l rr : RunRef} {k : Nat} (h : s.splitRun r k = (s', l, rr)) :
    s'.frame = s.frame :=
  (congrArg (·.1) h : _ = s') ▸ splitRun_frame s r k

/-! The functions that look for the anchor or for the target runs hand back `s` or a split of it.  Each is walked by its own
case principle (`fun_cases`: one goal per branch of the definition, its `let`s as local definitions, what a
`let (a, b) := e` binds as an equation `e = (a, b)`), and so are the steps built on them further down. -/

theorem insertionAnchor_frame (s : Sess) (spans : List OSpan) (index : Nat) :
    (insertionAnchor s spans index).1.frame = s.frame := by
  fun_cases insertionAnchor s spans index
  -- an anchor found through the span that ends at `index`, or through the one that contains it, comes with `s` or with
  -- one split of it; the other two cases hand back `s`
  next vp res h =>
    simp only [vp] at h
    repeat' split at h
    all_goals cases h
    · exact splitRun_frame ..
    · rfl
  next vc res h =>
    simp only [vc] at h
    repeat' split at h
    all_goals cases h
    exact splitRun_frame ..
  all_goals rfl

theorem insertionPoint_scan_frame (s : Sess) (spans : List OSpan) (index : Nat) (l : List OSpan) :
    ∀ res, insertionPoint.scan s spans index l = some res → res.1.frame = s.frame := by
  fun_induction insertionPoint.scan s spans index l with
  | case1 | case5 => rintro _ ⟨⟩
  | case2 _ _ _ ih | case6 _ _ _ _ _ ih => exact ih
  | case3 _ _ _ _ _ _ _ _ _ _ hs => rintro _ ⟨⟩; exact frame_of_splitRun hs
  | case4 => rintro _ ⟨⟩; rfl

theorem insertionPoint_frame (s : Sess) (spans : List OSpan) (index : Nat) :
    (insertionPoint s spans index).1.frame = s.frame := by
  fun_cases insertionPoint s spans index
  · next s' _ h => exact (congrArg (·.1) h : _ = s') ▸ insertionAnchor_frame s spans index
  · next direct res h =>
    simp only [direct] at h
    split at h
    · exact insertionPoint_scan_frame s spans index _ res h
    · cases h
  · next s' _ h => exact (congrArg (·.1) h : _ = s') ▸ insertionAnchor_frame s spans index

theorem startSplit_frame (s : Sess) (working : List RunRef) (w0 : RunRef) (k : Nat) :
    (startSplit s working w0 k).1.frame = s.frame := by
  fun_cases startSplit s working w0 k
  · exact frame_of_splitRun ‹_›
  · rfl

theorem endSplit_frame (s : Sess) (working : List RunRef) (same : Bool) (adj le : Nat) :
    (endSplit s working same adj le).1.frame = s.frame := by
  fun_cases endSplit s working same adj le
  · rfl
  · exact frame_of_splitRun ‹_›
  · rfl

theorem resolveRuns_frame (s : Sess) (spans : List OSpan) (start stop : Nat) :
    (resolveRuns s spans start stop).1.frame = s.frame := by
  fun_cases resolveRuns s spans start stop
  · rw [endSplit_frame, startSplit_frame]
  · rfl

theorem chooseAnchor_frame (s : Sess) (spans : List OSpan) (start : Nat) (bl : Bool) :
    (chooseAnchor s spans start bl).1.frame = s.frame := by
  fun_cases chooseAnchor s spans start bl
  · exact insertionAnchor_frame s spans start
  · exact insertionAnchor_frame s spans start
  · exact insertionPoint_frame s spans start

theorem nestedReplace_skip (s : Sess) (pi : Nat) (insId newText : Str) (comment : Option Str) :
    (nestedReplace s pi insId newText comment).2 = false → (nestedReplace s pi insId newText comment).1 = s := by
  fun_cases nestedReplace s pi insId newText comment
  · exact fun _ => rfl
  -- once the insertion is found every branch reports `true`
  all_goals nofun

/-- What the indexed step comes to on `s`: at most a run boundary moved (a skipped edit; reported as applied only by the
searched step, when the text is there already); the rewriting of a pending insertion; or - once the anchor or the target
runs are found, which moves run boundaries only - an insertion placed or target runs replaced.
`_apply_single_edit_indexed` is walked once, for this: what a skipped step leaves (`Indexed.skip_frame`) and the moves of
any step (`Indexed.reach`, Lemmas/Reach) are read off it.  The searched step comes to the same (`applyHeuristic_cases`):
it reaches the session only through the indexed step. -/
inductive Indexed (s : Sess) (c : Option Str) : Sess × Bool → Prop
  | idle {s' : Sess} {b : Bool} : s'.frame = s.frame → Indexed s c (s', b)
  | nested (pi : Nat) (id text : Str) : Indexed s c (nestedReplace s pi id text c)
  | insertion {s' : Sess} (a : RunRef) (before : Bool) (p : Para) (text : Str) : s'.frame = s.frame →
      Indexed s c (placeInsertion s' a before p text c, true)
  | replace {s' : Sess} (ts : List RunRef) (lastT : RunRef) (op : EOp) (text : Str) : s'.frame = s.frame →
      Indexed s c (replaceTargets s' ts lastT op text c, true)

theorem applyInsertion_cases (s : Sess) (spans : List OSpan) (start : Nat) (newText : Str) (comment : Option Str) :
    Indexed s comment (applyInsertion s spans start newText comment) := by
  fun_cases applyInsertion s spans start newText comment
  · exact .idle (chooseAnchor_frame ..)
  · exact .idle (chooseAnchor_frame ..)
  · exact .insertion _ _ _ _ (chooseAnchor_frame ..)

theorem applyReplace_cases (s : Sess) (spans : List OSpan) (op : EOp) (start len : Nat) (newText : Str)
    (comment : Option Str) : Indexed s comment (applyReplace s spans op start len newText comment) := by
  fun_cases applyReplace s spans op start len newText comment
  · exact .replace _ _ _ _ (resolveRuns_frame ..)
  · exact .idle (resolveRuns_frame ..)

theorem applyIndexed_cases (s : Sess) (clean : Bool) (start len : Nat) (newText : Str) (comment : Option Str)
    (op : Option EOp) : Indexed s comment (applyIndexed s clean start len newText comment op) := by
  fun_cases applyIndexed s clean start len newText comment op
  · exact .idle rfl
  · exact .nested ..
  · exact applyInsertion_cases ..
  · exact applyReplace_cases ..

theorem Indexed.skip_frame {s : Sess} {c : Option Str} {r : Sess × Bool} (ho : Indexed s c r) (h : r.2 = false) :
    r.1.frame = s.frame := by
  cases ho with
  | idle hf => exact hf
  | nested => rw [nestedReplace_skip _ _ _ _ _ h]
  | insertion | replace => cases h

/-- An edit addressed by offset that is reported as skipped leaves no trace: the canonical content of every
story, all comment lists and the session's counters are as before (at most a run boundary was added). -/
theorem applyIndexed_skip_frame (s : Sess) (clean : Bool) (start len : Nat) (newText : Str) (comment : Option Str)
    (op : Option EOp) (h : (applyIndexed s clean start len newText comment op).2 = false) :
    (applyIndexed s clean start len newText comment op).1.frame = s.frame :=
  (applyIndexed_cases ..).skip_frame h

theorem nestedProxyWith_cases {s : Sess} {clean : Bool} {start len : Nat} {new : Str} {c : Option Str} {id : Str}
    {r : Sess × Bool} : nestedProxyWith s clean start len new c id = some r → Indexed s c r := by
  fun_cases nestedProxyWith s clean start len new c id
  · rintro ⟨⟩; exact applyIndexed_cases ..
  · rintro ⟨⟩

theorem nestedProxyAt_cases {s : Sess} {clean : Bool} {start len : Nat} {new : Str} {c : Option Str}
    {r : Sess × Bool} : nestedProxyAt s clean start len new c = some r → Indexed s c r := by
  fun_cases nestedProxyAt s clean start len new c
  · exact nestedProxyWith_cases
  · rintro ⟨⟩

theorem nestedInsertAt_cases {s : Sess} {clean : Bool} {start : Nat} {new : Str} {c : Option Str}
    {r : Sess × Bool} : nestedInsertAt s clean start new c = some r → Indexed s c r := by
  fun_cases nestedInsertAt s clean start new c
  · rintro ⟨⟩
  · exact nestedProxyWith_cases
  · rintro ⟨⟩

theorem heuristicDirect_cases (s : Sess) (m : HMatch) (e : HEdit) : Indexed s e.comment (heuristicDirect s m e) := by
  fun_cases heuristicDirect s m e
  · exact .idle rfl
  · exact nestedInsertAt_cases ‹_›
  · exact applyIndexed_cases ..
  · exact .idle rfl
  · next nested r h =>
    simp only [nested] at h
    split at h
    · exact nestedInsertAt_cases h
    · exact nestedProxyAt_cases h
  · exact applyIndexed_cases ..

theorem heuristicApplyAt_cases (s : Sess) (m : HMatch) (e : HEdit) : Indexed s e.comment (heuristicApplyAt s m e) := by
  fun_cases heuristicApplyAt s m e
  · exact nestedProxyAt_cases ‹_›
  · exact heuristicDirect_cases ..

theorem applyHeuristic_cases (s : Sess) (occ : List (Nat × Nat)) (e : HEdit) :
    Indexed s e.comment ((applyHeuristic s occ e).1, (applyHeuristic s occ e).2.1) := by
  fun_cases applyHeuristic s occ e
  · exact .idle rfl
  · exact .idle rfl
  · exact .idle rfl
  · next m _ _ r =>
    have h : Indexed s e.comment r := heuristicApplyAt_cases s m e
    -- with `r` opaque the pair of its projections is `r` by eta; with its value the unifier unfolds `heuristicApplyAt`
    clear_value r
    exact h

/-- A searched edit that is reported as skipped — empty target, target not found, conflict with an earlier
edit of the batch, or refused by the indexed step — leaves no trace. -/
theorem applyHeuristic_skip_frame (s : Sess) (occ : List (Nat × Nat)) (e : HEdit)
    (h : (applyHeuristic s occ e).2.1 = false) : (applyHeuristic s occ e).1.frame = s.frame :=
  (applyHeuristic_cases s occ e).skip_frame h

abbrev Acc := Sess × Nat × Nat × List (Nat × Nat)

/-- a step never lowers the applied count, and keeps the frame when it does not raise it -/
def StepQuiet (step : Acc → α → Acc) : Prop :=
  ∀ acc a, acc.2.1 ≤ (step acc a).2.1 ∧ ((step acc a).2.1 = acc.2.1 → (step acc a).1.frame = acc.1.frame)

theorem foldl_quiet {α} (step : Acc → α → Acc) (hs : StepQuiet step) : ∀ (l : List α) (acc : Acc),
    acc.2.1 ≤ (l.foldl step acc).2.1 ∧ ((l.foldl step acc).2.1 = acc.2.1 → (l.foldl step acc).1.frame = acc.1.frame) := by
  intro l acc
  refine List.foldlRecOn (motive := fun b : Acc => acc.2.1 ≤ b.2.1 ∧ (b.2.1 = acc.2.1 → b.1.frame = acc.1.frame))
    l step ⟨Nat.le_refl _, fun _ => rfl⟩ ?_
  intro b ⟨h1, h2⟩ a _
  obtain ⟨h3, h4⟩ := hs b a
  refine ⟨Nat.le_trans h1 h3, fun e => ?_⟩
  -- the count is back where it started, so it did not move in the last step either
  have hb : b.2.1 = acc.2.1 := Nat.le_antisymm (e ▸ h3) h1
  rw [h4 (e.trans hb.symm), h2 hb]

/-- One round of a batch loop: the session goes where `r`, an outcome of the indexed step, leaves it, and the edit is
counted once, as applied or as skipped, by what `r` reports.  Both loops of `apply_edits` are
walked once, for this; the accounting, the frame of a batch without effect and the induction over a batch are read off it. -/
def Round (com : α → Option Str) (step : Acc → α → Acc) : Prop :=
  ∀ acc a, ∃ r, Indexed acc.1 (com a) r ∧ (step acc a).1 = r.1 ∧
    (r.2 = true ∧ (step acc a).2.1 = acc.2.1 + 1 ∧ (step acc a).2.2.1 = acc.2.2.1 ∨
     r.2 = false ∧ (step acc a).2.1 = acc.2.1 ∧ (step acc a).2.2.1 = acc.2.2.1 + 1)

section
variable {com : α → Option Str} {step : Acc → α → Acc} (h : Round com step)
include h

theorem Round.count (acc : Acc) (a : α) : (step acc a).2.1 + (step acc a).2.2.1 = acc.2.1 + acc.2.2.1 + 1 := by
  obtain ⟨_, _, _, ⟨_, e1, e2⟩ | ⟨_, e1, e2⟩⟩ := h acc a <;> rw [e1, e2]
  · exact Nat.add_right_comm ..
  · rfl

theorem Round.quiet : StepQuiet step := by
  intro acc a
  obtain ⟨r, hv, hs, ⟨_, e1, _⟩ | ⟨hb, e1, _⟩⟩ := h acc a <;> rw [e1]
  · exact ⟨Nat.le_succ _, fun e => absurd e (Nat.succ_ne_self _)⟩
  · exact ⟨Nat.le_refl _, fun _ => hs ▸ hv.skip_frame hb⟩

theorem Round.sess {P : Sess → Prop} (hP : ∀ s c r, Indexed s c r → P s → P r.1) {acc : Acc} (ha : P acc.1) (a : α) :
    P (step acc a).1 := by
  obtain ⟨r, hv, hs, _⟩ := h acc a
  exact hs ▸ hP _ _ _ hv ha

end

theorem indexedStep_round : Round IEdit.comment indexedStep := by
  intro acc e
  fun_cases indexedStep acc e
  · exact ⟨(_, false), .idle rfl, rfl, .inr ⟨rfl, rfl, rfl⟩⟩
  · next h => exact ⟨_, h ▸ applyIndexed_cases .., rfl, .inl ⟨rfl, rfl, rfl⟩⟩
  · next h hok => exact ⟨_, h ▸ applyIndexed_cases .., rfl, .inr ⟨Bool.eq_false_iff.mpr hok, rfl, rfl⟩⟩

theorem heuristicStep_round : Round HEdit.comment heuristicStep := by
  intro acc e
  fun_cases heuristicStep acc e
  · next h => exact ⟨_, h ▸ applyHeuristic_cases .., rfl, .inl ⟨rfl, rfl, rfl⟩⟩
  · next h hok => exact ⟨_, h ▸ applyHeuristic_cases .., rfl, .inr ⟨Bool.eq_false_iff.mpr hok, rfl, rfl⟩⟩

/-- If every edit of a batch is skipped (nothing is reported applied), the document content is unchanged:
canonical content of every story, all comment lists, the id counters. Mixed batches, any size. -/
theorem applyEdits_none_applied (s : Sess) (edits : List HEdit) (h : (applyEdits s edits).2.1 = 0) :
    (applyEdits s edits).1.frame = s.frame := by
  obtain ⟨b1, b2⟩ := foldl_quiet heuristicStep heuristicStep_round.quiet
    ((edits.filter (·.index.isNone)).mergeSort fun a b => decide (a.target.length ≥ b.target.length))
    (applyEditsIndexedFull s (edits.filterMap HEdit.toIndexed))
  -- nothing applied at the end: nothing applied after the indexed phase either
  have hr : (applyEditsIndexedFull s (edits.filterMap HEdit.toIndexed)).2.1 = 0 := Nat.le_zero.mp (h ▸ b1)
  exact (b2 (h.trans hr.symm)).trans ((foldl_quiet indexedStep indexedStep_round.quiet _ (s, 0, 0, [])).2 hr)

theorem applyEditsIndexed_none_applied (s : Sess) (edits : List IEdit) (h : (applyEditsIndexed s edits).2.1 = 0) :
    (applyEditsIndexed s edits).1.frame = s.frame :=
  (foldl_quiet indexedStep indexedStep_round.quiet _ (s, 0, 0, [])).2 h

theorem applyEditsIndexedFull_induction {P : Sess → Prop} (hP : ∀ s c r, Indexed s c r → P s → P r.1)
    {s : Sess} (h : P s) (edits : List IEdit) : P (applyEditsIndexedFull s edits).1 :=
  List.foldlRecOn (motive := fun acc : Acc => P acc.1) _ indexedStep h fun _ ha e _ => indexedStep_round.sess hP ha e

theorem applyEdits_induction {P : Sess → Prop} (hP : ∀ s c r, Indexed s c r → P s → P r.1)
    {s : Sess} (h : P s) (edits : List HEdit) : P (applyEdits s edits).1 :=
  List.foldlRecOn (motive := fun acc : Acc => P acc.1) _ heuristicStep (applyEditsIndexedFull_induction hP h _)
    fun _ ha e _ => heuristicStep_round.sess hP ha e

theorem applyEditsIndexedFull_total (s : Sess) (edits : List IEdit) :
    (applyEditsIndexedFull s edits).2.1 + (applyEditsIndexedFull s edits).2.2.1 = edits.length := by
  unfold applyEditsIndexedFull
  rw [foldl_count indexedStep (fun acc => acc.2.1 + acc.2.2.1) indexedStep_round.count]
  simp

theorem applyEditsIndexed_total (s : Sess) (edits : List IEdit) :
    (applyEditsIndexed s edits).2.1 + (applyEditsIndexed s edits).2.2 = edits.length :=
  applyEditsIndexedFull_total s edits

theorem split_lengths (edits : List HEdit) :
    (edits.filterMap HEdit.toIndexed).length + (edits.filter (·.index.isNone)).length = edits.length := by
  rw [List.length_filterMap_eq_countP, ← List.countP_eq_length_filter,
    List.length_eq_countP_add_countP fun e : HEdit => e.toIndexed.isSome]
  congr 2
  funext e
  cases h : e.index <;> simp [HEdit.toIndexed, h]

/-- applied + skipped equals the number of edits submitted — mixed batches (indexed and searched edits) -/
theorem applyEdits_total (s : Sess) (edits : List HEdit) :
    (applyEdits s edits).2.1 + (applyEdits s edits).2.2 = edits.length := by
  unfold applyEdits
  simp only
  rw [foldl_count heuristicStep (fun acc => acc.2.1 + acc.2.2.1) heuristicStep_round.count,
    applyEditsIndexedFull_total, List.length_mergeSort]
  exact split_lengths edits

/-- an edit whose target is found in neither view is skipped and the session is exactly as before -/
theorem applyHeuristic_not_found (s : Sess) (occ : List (Nat × Nat)) (e : HEdit) (h : locate s e = none) :
    applyHeuristic s occ e = (s, false, none) := by
  unfold applyHeuristic
  split
  · rfl
  · simp [h]

end Adeu.Doc
