import AdeuModel.Model.Engine
import AdeuModel.Lemmas.List
namespace Adeu.Doc
open Adeu

/-- what the reader shows for a child of an insertion -/
def childText : InsChild → Str
  | .run r => runText r
  | _ => []

/-- the text as the reader shows it: a break is a newline, a literal tab a space -/
def shown (c : Char) : Char := if c = '\n' || c = '\r' then '\n' else if c = '\t' then ' ' else c

def joinShown : List Str → Str
  | [] => []
  | l :: ls => l.map shown ++ ls.flatMap fun x => '\n' :: x.map shown

theorem splitBreaks_go_ne (r : Str) : ∀ cur, splitBreaks.go cur r ≠ [] := by
  induction r with
  | nil => intro cur; simp [splitBreaks.go]
  | cons c r ih =>
    intro cur
    simp only [splitBreaks.go]
    split
    · simp
    · exact ih _

theorem joinShown_cons {ls : List Str} (h : ls ≠ []) (l : Str) :
    joinShown (l :: ls) = l.map shown ++ '\n' :: joinShown ls := by
  obtain ⟨x, xs, rfl⟩ := List.exists_cons_of_ne_nil h
  simp [joinShown]

theorem joinShown_go (r : Str) : ∀ cur, joinShown (splitBreaks.go cur r) = cur.reverse.map shown ++ r.map shown := by
  induction r with
  | nil => intro cur; simp [splitBreaks.go, joinShown]
  | cons c r ih =>
    intro cur
    simp only [splitBreaks.go]
    split
    · rename_i hc
      have hs : shown c = '\n' := by simp only [shown]; rw [if_pos hc]
      rw [joinShown_cons (splitBreaks_go_ne r []) _, ih, List.map_cons, hs]; rfl
    · rw [ih]
      simp [List.map_append]

theorem joinShown_splitBreaks (t : Str) : joinShown (splitBreaks t) = t.map shown := by
  unfold splitBreaks
  rw [joinShown_go]; simp

/-- a line without bold / italic spans is one plain segment (or none when empty) -/
def PlainLine (line : Str) : Prop := inlineSegs line = if line.isEmpty then [] else [⟨line, false, false⟩]

/-- no line break: the negation of the test `splitBreaks` cuts at -/
def noBreak (c : Char) : Bool := !(c = '\n' || c = '\r')

theorem map_shown_noBreak (l : Str) (h : l.all noBreak = true) :
    l.map (fun c => if c = '\t' then ' ' else c) = l.map shown :=
  List.map_congr_left fun c hc => by
    have := List.all_eq_true.1 h c hc
    simp only [noBreak, Bool.not_eq_true'] at this
    simp only [shown, this, Bool.false_eq_true, ↓reduceIte]

theorem splitBreaks_go_noBreak (r : Str) : ∀ cur, cur.all noBreak = true →
    (splitBreaks.go cur r).all (·.all noBreak) = true := by
  induction r with
  | nil => intro cur h; rw [splitBreaks.go, List.all_cons, List.all_reverse, h]; rfl
  | cons x r ih =>
    intro cur h
    rw [splitBreaks.go]
    split
    · rw [List.all_cons, List.all_reverse, h]; exact ih [] rfl
    · rename_i hx
      refine ih (x :: cur) ?_
      rw [List.all_cons, h, noBreak, Bool.and_true, Bool.not_eq_true', Bool.eq_false_iff]; exact hx

theorem insRuns_text (line : Str) (style : Option Run) (hp : PlainLine line) (hb : line.all noBreak = true) :
    (insRuns line style false).flatMap childText = line.map shown := by
  unfold insRuns
  rw [hp]
  split
  · rename_i he
    have : line = [] := by simpa using he
    subst this; simp
  · simp only [List.map_cons, List.map_nil, List.flatMap_cons, List.flatMap_nil, List.append_nil, childText, runText, atomText]
    exact map_shown_noBreak line hb

theorem brRun_text (style : Option Run) : childText (brRun style) = ['\n'] := by
  simp [brRun, childText, runText, atomText]

/-- **the rewritten insertion reads as the replacement text**: for lines without bold / italic markers, the text
the reader extracts from the new inline insertion is the replacement text itself (breaks as newlines, a literal tab
as the space the reader shows for it) - no character of the insertion's text is lost or reordered -/
theorem inlineLines_text (text : Str) (style : Option Run) (hp : ∀ l ∈ splitBreaks text, PlainLine l) :
    (inlineLines text style).flatMap childText = text.map shown := by
  rw [← joinShown_splitBreaks]
  unfold inlineLines
  -- every line reads as itself; a break run reads as the newline between two lines
  have line : ∀ l ∈ splitBreaks text, (insRuns l style false).flatMap childText = l.map shown :=
    fun l hl => insRuns_text l style (hp l hl) (List.all_eq_true.1 (splitBreaks_go_noBreak text [] rfl) l hl)
  generalize splitBreaks text = ls at line
  cases ls with
  | nil => rfl
  | cons l rest =>
    simp only [joinShown, List.flatMap_append, line l List.mem_cons_self, List.flatMap_assoc]
    congr 1
    exact flatMap_congr fun y hy => by
      rw [List.flatMap_cons, brRun_text, line y (List.mem_cons_of_mem _ hy)]; rfl

example : ∀ l ∈ splitBreaks "brown\nlazy cat ".toList, PlainLine l := by unfold PlainLine; decide +kernel
example : (inlineLines "brown\nlazy cat ".toList none).flatMap childText = "brown\nlazy cat ".toList := by decide +kernel
end Adeu.Doc
