import AdeuModel.Model.Str
/-
Edit scripts that fit a text: the one notion behind "sorted, non-overlapping, targets where the indices say,
in range, and replacing every target gives the result" (C12, C13, C14).
-/
namespace Adeu

/-- `Tiles pos rest es out`: `rest` is the original text from offset `pos` on; the edits lie in it one
after the other, each target where its index says, and `out` is `rest` with every target replaced
by its new text. -/
inductive Tiles : Nat → Str → List Edit → Str → Prop
  | nil (pos : Nat) (rest : Str) : Tiles pos rest [] rest
  | cons {pos : Nat} {e : Edit} {es : List Edit} {rest out : Str} (pre : Str) :
      e.idx = pos + pre.length → Tiles (e.idx + e.target.length) rest es out →
      Tiles pos (pre ++ e.target ++ rest) (e :: es) (pre ++ e.new ++ out)

namespace Tiles
variable {pos : Nat} {rest out : Str} {es : List Edit}

theorem prepend {pos' : Nat} (a : Str) (h : Tiles pos' rest es out) (hp : pos' = pos + a.length) :
    Tiles pos (a ++ rest) es (a ++ out) := by
  subst hp
  cases h with
  | nil => exact nil _ _
  | cons pre hi ht =>
    rw [← List.append_assoc, ← List.append_assoc, ← List.append_assoc, ← List.append_assoc]
    exact cons (a ++ pre) (by rw [hi, List.length_append, Nat.add_assoc]) ht

theorem applyFrom_eq (h : Tiles pos rest es out) : applyFrom pos rest es = out := by
  induction h with
  | nil => rfl
  | cons pre hi _ ih =>
    simp only [applyFrom, hi, Nat.add_sub_cancel_left, List.append_assoc, List.take_left', List.drop_left',
      ← List.drop_drop]
    simpa [hi] using ih

theorem sorted (h : Tiles pos rest es out) : SortedFrom pos es := by
  induction h with
  | nil => trivial
  | cons pre hi _ ih => exact ⟨by omega, ih⟩

theorem mem_split (h : Tiles pos rest es out) :
    ∀ e ∈ es, ∃ A B, rest = A ++ e.target ++ B ∧ e.idx = pos + A.length := by
  induction h with
  | nil => intro e he; cases he
  | @cons pos e es rest out pre hi _ ih =>
    intro e' he'
    rcases List.mem_cons.mp he' with rfl | he'
    · exact ⟨pre, rest, rfl, hi⟩
    · obtain ⟨A, B, rfl, hA⟩ := ih e' he'
      exact ⟨pre ++ e.target ++ A, B, by simp, by simp [hA, hi, Nat.add_assoc]⟩

theorem targetsAt {full : Str} (h : Tiles pos rest es out) (hf : full.drop pos = rest) :
    ∀ e ∈ es, (full.drop e.idx).take e.target.length = e.target := by
  intro e he
  obtain ⟨A, B, rfl, hA⟩ := h.mem_split e he
  rw [hA, ← List.drop_drop, hf, List.append_assoc, List.drop_left' rfl, List.take_left' rfl]

theorem inRange (h : Tiles pos rest es out) : InRange (pos + rest.length) es := by
  intro e he
  obtain ⟨A, B, rfl, hA⟩ := h.mem_split e he
  simp only [List.length_append]
  omega

end Tiles

theorem sortedFrom_ge : ∀ (l : List Edit) (b : Nat), SortedFrom b l → ∀ y ∈ l, b ≤ y.idx
  | _ :: l, _, ⟨h1, h2⟩, y, hy => by
    rcases List.mem_cons.mp hy with rfl | hy
    · exact h1
    · exact Nat.le_trans (Nat.le_trans h1 (Nat.le_add_right ..)) (sortedFrom_ge l _ h2 y hy)

theorem sortedFrom_disjoint : ∀ (l : List Edit) (b : Nat), SortedFrom b l →
    l.Pairwise (fun x y => x.idx + x.target.length ≤ y.idx)
  | [], _, _ => .nil
  | _ :: l, _, ⟨_, h2⟩ => .cons (sortedFrom_ge l _ h2) (sortedFrom_disjoint l _ h2)

end Adeu
