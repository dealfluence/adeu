import AdeuModel.Model.Doc
namespace Adeu.Doc
open Adeu

/-- Induction over a block list together with everything nested in it: one motive for each of the
three list types of the mutual `Block` / `Row` / `Cell`. -/
theorem blocks_induction {P : List Block → Prop} {Q : List Row → Prop} {R : List Cell → Prop}
    (nil : P []) (para : ∀ p bs, P bs → P (.para p :: bs))
    (table : ∀ pr g rs bs, Q rs → P bs → P (.table pr g rs :: bs))
    (other : ∀ x bs, P bs → P (.other x :: bs))
    (rnil : Q []) (row : ∀ pr cs rs, R cs → Q rs → Q (.mk pr cs :: rs))
    (cnil : R []) (cell : ∀ pr s v bs cs, P bs → R cs → R (.mk pr s v bs :: cs)) :
    (∀ bs, P bs) ∧ (∀ rs, Q rs) ∧ (∀ cs, R cs) :=
  -- the recursor also wants motives for a single block / row / cell: "consing it keeps the list motive"
  let B (b : Block) := ∀ bs, P bs → P (b :: bs)
  let W (r : Row) := ∀ rs, Q rs → Q (r :: rs)
  let C (c : Cell) := ∀ cs, R cs → R (c :: cs)
  have b : ∀ p, B (.para p) := para
  have t : ∀ pr g rs, Q rs → B (.table pr g rs) := fun pr g rs h bs => table pr g rs bs h
  have o : ∀ x, B (.other x) := other
  have r : ∀ pr cs, R cs → W (.mk pr cs) := fun pr cs h rs => row pr cs rs h
  have c : ∀ pr s v bs, P bs → C (.mk pr s v bs) := fun pr s v bs h cs => cell pr s v bs cs h
  ⟨@Block.rec_3 B W C Q R P b t o r c rnil (fun _ t ih => ih t) cnil (fun _ t ih => ih t) nil (fun _ t ih => ih t),
   @Block.rec_1 B W C Q R P b t o r c rnil (fun _ t ih => ih t) cnil (fun _ t ih => ih t) nil (fun _ t ih => ih t),
   @Block.rec_2 B W C Q R P b t o r c rnil (fun _ t ih => ih t) cnil (fun _ t ih => ih t) nil (fun _ t ih => ih t)⟩

end Adeu.Doc
