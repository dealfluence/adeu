import AdeuModel.Lemmas.Markup
/-
C14 — the CriticMarkup preview is faithful to the text and to the edits.

`previewStr` is the string the code builds (right-to-left splicing); `previewSegs` is the same
preview as a flat list of segments — flat by construction: blocks are balanced, never nested and
never cut through one another.  The span found by the fuzzy regular expression is a parameter
(`MEdit.fz`); the only hypothesis on it is that it ends inside the text (`FzInBounds`, monitored
on every observed call).  Reading a preview = `rejectView` / `acceptView` of its segments; that the
rendered string reads back as these segments is checked on the real output by the harness' parser
(texts without CriticMarkup delimiters).
-/
namespace Adeu.Props.C14
open Adeu Adeu.Markup

/-- The string the code builds is the rendering of the flat segment list: suggestion blocks are
balanced, never nested, never cut through one another. -/
theorem C14_render_flat (text : Str) (edits : List MEdit) (o : Opts) (h : FzInBounds text edits) :
    previewStr text edits o = render (previewSegs text edits o) :=
  (view_previewSegs Seg.render (fun _ => rfl) text edits o _ (fun _ => rfl) h).symm

/-- Reading the preview with every suggestion rejected gives back the input text exactly. -/
theorem C14_reject_lossless (text : Str) (edits : List MEdit) (o : Opts) (h : FzInBounds text edits) :
    rejectView (previewSegs text edits o) = text :=
  (view_previewSegs Seg.rejected (fun _ => rfl) text edits o _ (fun _ => rejectView_buildMarkup ..) h).trans
    (spliceFold_kept_id text edits)

/-- the new text of the edit a match belongs to -/
def newOf (edits : List MEdit) (m : Match) : Str := (edits[m.idx]?.getD default).new

/-- Reading the preview with every suggestion accepted gives the text in which every kept match is
replaced by the new text of its edit (spliced right to left). -/
theorem C14_accept_splice (text : Str) (edits : List MEdit) (o : Opts) (h : FzInBounds text edits)
    (ho : o.highlightOnly = false) :
    acceptView (previewSegs text edits o) = spliceFold (newOf edits) text (keptDesc text edits) :=
  view_previewSegs Seg.accepted (fun _ => rfl) text edits o _ (fun _ => acceptView_buildMarkup _ _ _ _ _ ho) h

/-- the kept matches as an edit script in the coordinates of the text, ascending -/
def scriptOf (text : Str) (edits : List MEdit) : List Edit :=
  (keptDesc text edits).reverse.map fun m => ⟨m.s, slice text m.s m.e, newOf edits m⟩

/-- … which is the simultaneous replacement of the kept targets by their new texts (the reading of
"each target replaced by its new text" used by C12/C13). -/
theorem C14_accept_exact (text : Str) (edits : List MEdit) (o : Opts) (h : FzInBounds text edits)
    (ho : o.highlightOnly = false) :
    acceptView (previewSegs text edits o) = applyEdits text (scriptOf text edits) :=
  (C14_accept_splice text edits o h ho).trans
    (spliceFold_eq_applyEdits _ text _ (keptDesc_chain text edits (matches_inBounds text edits h)))

/-- Highlight-only mode adds only wrappers: accepted and rejected readings are the text. -/
theorem C14_highlight_only (text : Str) (edits : List MEdit) (o : Opts) (h : FzInBounds text edits)
    (ho : o.highlightOnly = true) :
    acceptView (previewSegs text edits o) = text :=
  (view_previewSegs Seg.accepted (fun _ => rfl) text edits o _ (fun _ => acceptView_buildMarkup_hl _ _ _ _ _ ho) h).trans
    (spliceFold_kept_id text edits)

/-- An edit list in which nothing matches leaves the text as it is. -/
theorem C14_unmatched_no_trace (text : Str) (edits : List MEdit) (o : Opts)
    (h : matchesFrom text edits 0 = []) : previewStr text edits o = text := by
  unfold previewStr keptDesc
  rw [h]
  simp [filterOverlap]

/-- An edit that does not match leaves no trace: appending it changes nothing. -/
theorem C14_unmatched_appended (text : Str) (edits : List MEdit) (ed : MEdit)
    (h : matchesFrom text [ed] edits.length = []) :
    keptDesc text (edits ++ [ed]) = keptDesc text edits := by
  rw [matchesFrom_eq] at h
  rw [keptDesc, matchesFrom_eq, List.zipIdx_append, List.flatMap_append, Nat.zero_add, h, List.append_nil,
    ← matchesFrom_eq, keptDesc]

/-- Displayed edit indexes are positions in the submitted list: every metadata block of the preview
is the metadata of a kept match `m`, built from the comment of `edits[m.idx]` and (when requested)
`[Edit:m.idx]`, and `edits[m.idx]` is the edit whose target matched at `m`. -/
theorem C14_index_is_position (text : Str) (edits : List MEdit) (o : Opts) (s : Str)
    (hs : Seg.note s ∈ previewSegs text edits o) :
    ∃ m ∈ keptDesc text edits, ∃ ed, edits[m.idx]? = some ed ∧
      findMatch text ed.target ed.fz = some (m.s, m.e) ∧ Seg.note s ∈ metaSegs ed.comment m.idx o := by
  rcases mem_previewSegs hs with ⟨_, h⟩ | ⟨m, hm, h⟩
  · cases h
  · obtain ⟨_, ed, he, hf⟩ := matchesFrom_spec text edits m (mem_keptDesc hm)
    refine ⟨m, hm, ed, he, hf, ?_⟩
    have := note_mem_buildMarkup _ _ _ _ _ _ h
    rwa [he] at this

theorem metaSegs_index (c : Str) (i : Nat) (o : Opts) (ho : o.includeIndex = true) :
    ∃ pre, metaSegs c i o = [Seg.note (pre ++ "[Edit:".toList ++ (toString i).toList ++ "]".toList)] := by
  unfold metaSegs
  by_cases hc : c.isEmpty = true
  · exact ⟨[], by simp [hc, ho, List.intercalate]⟩
  · exact ⟨c ++ " ".toList, by simp [hc, ho, List.intercalate]⟩

/-- Reading is defined on the string: the rendering of a flat, brace-free segment list parses back to
that list (adjacent plain pieces joined), so both readings of the string are the readings of the
segments. -/
theorem C14_render_parse (segs : List Seg) (hb : BraceFree segs) :
    (parse (render segs)).map rejectView = some (rejectView segs) ∧
    (parse (render segs)).map acceptView = some (acceptView segs) := by
  rw [parse_render segs hb]
  exact ⟨congrArg some (read_normAcc Seg.rejected (fun _ => rfl) segs []), congrArg some (acceptView_normAcc segs [])⟩

/-- The string the code returns, read with every suggestion rejected, is the input text. -/
theorem C14_read_rejected (text : Str) (edits : List MEdit) (o : Opts) (h : FzInBounds text edits)
    (hb : BraceFree (previewSegs text edits o)) :
    (parse (previewStr text edits o)).map rejectView = some text := by
  rw [C14_render_flat text edits o h, (C14_render_parse _ hb).1, C14_reject_lossless text edits o h]

/-- … and read with every suggestion accepted it is the text with every kept match replaced. -/
theorem C14_read_accepted (text : Str) (edits : List MEdit) (o : Opts) (h : FzInBounds text edits)
    (ho : o.highlightOnly = false) (hb : BraceFree (previewSegs text edits o)) :
    (parse (previewStr text edits o)).map acceptView = some (applyEdits text (scriptOf text edits)) := by
  rw [C14_render_flat text edits o h, (C14_render_parse _ hb).2, C14_accept_exact text edits o h ho]

/-! Non-vacuity -/
example : parse "a_{--b c--}{++Q++}{>>why [Edit:1]<<} x".toList =
    some [.plain "a_".toList, .del "b c".toList, .ins "Q".toList, .note "why [Edit:1]".toList, .plain " x".toList] := by
  -- the characters of the literals are read off (evaluating `String.toList` on a literal is quadratic in the kernel)
  repeat rw [String.toList_ofList]
  decide +kernel

def sampleEdits : List MEdit :=
  [⟨"__".toList, "X".toList, [], some (2, 2)⟩, ⟨"b c".toList, "Q".toList, "why".toList, none⟩,
   ⟨"**Term**".toList, "**Name**".toList, [], none⟩]
example : FzInBounds "a_b c **Term** x".toList sampleEdits := by
  intro ed he a b hab
  simp only [sampleEdits, List.mem_cons, List.not_mem_nil, or_false] at he
  -- only the first edit has a recorded span
  rcases he with rfl | rfl | rfl <;> cases hab
  rw [String.toList_ofList]
  decide

end Adeu.Props.C14
