import AdeuModel.Model.Engine
import AdeuModel.Lemmas.List
import AdeuModel.Lemmas.Threads
/-
Layers E + D — the comment `add_comment` writes is read back by `extract_comments_data` with its text and the session's
author, whatever comments the document already holds (the new entry is the last one, so it wins an id clash in the map;
the threading pass only changes `parent`).
-/
namespace Adeu.Doc
open Adeu

/-- what the threading pass keeps of an entry -/
def CData.core (d : CData) : Str × Str × Str × Bool := (d.author, d.text, d.date, d.resolved)

theorem setParent_core (data : CMap) (cid : Str) (cd : CData) (par : Str) (k : Str) (hcd : cmGet data cid = some cd) :
    (cmGet (cmSet cid { cd with parent := some par } data) k).map CData.core = (cmGet data k).map CData.core := by
  rw [cmGet_cmSet]
  split
  · rename_i hk; rw [hk, hcd]; rfl
  · rfl

/-- the threading pass changes at most the `parent` of entries -/
theorem exFold_core (p2c : List (Str × Str)) (k : Str) : ∀ (exs : List CommentEx) (data : CMap),
    (cmGet (exs.foldl (fun data e =>
      match truthy e.paraId, truthy e.parent with
      | some pid, some ppid =>
        match dictGet p2c pid, dictGet p2c ppid with
        | some cid, some par =>
          match cmGet data cid with
          | some cd => cmSet cid { cd with parent := some par } data
          | none => data
        | _, _ => data
      | _, _ => data) data) k).map CData.core = (cmGet data k).map CData.core := by
  refine fun exs => foldl_keeps (fun data => (cmGet data k).map CData.core) fun data e _ => ?_
  split
  · split
    · split
      · exact setParent_core data _ _ _ k ‹_›
      · rfl
    · rfl
  · rfl

/-- The last comment of a document is read back: the comment map has an entry under its id with the comment's author,
text, date and state, whatever came before (an earlier entry under the same id is overwritten; the threading pass only
changes `parent`). -/
theorem commentsMap_last (d : Document) (pre : List Comment) (c : Comment) (h : d.comments = pre ++ [c]) :
    (cmGet (commentsMap d) c.id).map CData.core =
      some ((truthy c.author).getD "Unknown".toList, commentText c, c.date.getD [],
        c.doneAttr = some "1".toList || c.doneAttr = some "true".toList || c.doneAttr = some "on".toList) := by
  unfold commentsMap
  extract_lets step
  rw [h, List.foldl_append]
  generalize (List.foldl _ ([], []) pre) = acc
  obtain ⟨data, p2c⟩ := acc
  -- the last step of the first pass sets the entry (the `if` on `hasExtended` shows once that step is computed);
  -- with or without the threading pass its core stays
  refine (apply_ite (fun m => (cmGet m c.id).map CData.core) _ _ _).trans ?_
  refine (ite_eq_right_iff.mpr fun _ => exFold_core _ _ _ _).trans ?_
  rw [cmGet_cmSet, if_pos rfl]
  rfl

/-- The comment `add_comment` writes is read back with its text and the session's author: the comment map of the
resulting document has an entry under the new id whose text is the (stripped) comment text, whose author is the
session's author and which is not resolved - whatever the document held before. -/
theorem addComment_read_back (s : Sess) (text : Str) (parent : Option Str) :
    ∃ dd, cmGet (commentsMap (s.addComment text parent).1.doc) (s.addComment text parent).2 = some dd ∧
      (dd.text = stripStr Trim.pyIsSpace (([text].filter (!·.isEmpty)).flatten ++ ['\n']) ∧
      dd.author = (truthy (some s.author)).getD "Unknown".toList ∧ dd.resolved = false) := by
  -- `add_comment` appends its comment
  obtain ⟨dd, hg, hc⟩ := Option.map_eq_some_iff.mp (commentsMap_last (s.addComment text parent).1.doc s.doc.comments _ rfl)
  simp only [CData.core, Prod.mk.injEq] at hc
  exact ⟨dd, hg, hc.2.1.trans (by simp [commentText]), hc.1, hc.2.2.2⟩

end Adeu.Doc
