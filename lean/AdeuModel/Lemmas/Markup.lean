import AdeuModel.Model.Markup
import AdeuModel.Lemmas.Tiles
import AdeuModel.Lemmas.List
/-
The preview (C14): one suggestion has a fixed shape (`buildMarkup_shape`); the matches are one `flatMap` over the
numbered edits (`matchesFrom_eq`); the preview is a fold over the kept matches, right to left, and every reading of
its segments is the same fold over the readings of the suggestions (`view_previewSegs`); the kept matches form a
chain, over which the fold is the tail fold (`splice_tail`), and that builds a simultaneous replacement
(`tailFold_tiles`, `spliceFold_eq_applyEdits`); the reader of CriticMarkup inverts the rendering (`parse_render`).
-/
namespace Adeu.Markup
open Adeu

/-! ### `Seg.render` by cases.  Use these, not `simp [Seg.render]`: Lean's own equations of `Seg.render` are
made on first use, and making them evaluates the string literals in the elaborator (slow). -/

@[simp] theorem Seg.render_plain (s : Str) : (Seg.plain s).render = s := rfl
@[simp] theorem Seg.render_del (s : Str) : (Seg.del s).render = "{--".toList ++ s ++ "--}".toList := rfl
@[simp] theorem Seg.render_ins (s : Str) : (Seg.ins s).render = "{++".toList ++ s ++ "++}".toList := rfl
@[simp] theorem Seg.render_hl (s : Str) : (Seg.hl s).render = "{==".toList ++ s ++ "==}".toList := rfl
@[simp] theorem Seg.render_note (s : Str) : (Seg.note s).render = "{>>".toList ++ s ++ "<<}".toList := rfl

@[simp] theorem render_nil : render [] = [] := rfl
@[simp] theorem rejectView_nil : rejectView [] = [] := rfl
@[simp] theorem acceptView_nil : acceptView [] = [] := rfl

@[simp] theorem render_cons (s : Seg) (l : List Seg) : render (s :: l) = s.render ++ render l := by
  simp [render]
@[simp] theorem rejectView_cons (s : Seg) (l : List Seg) : rejectView (s :: l) = s.rejected ++ rejectView l := by
  simp [rejectView]
@[simp] theorem acceptView_cons (s : Seg) (l : List Seg) : acceptView (s :: l) = s.accepted ++ acceptView l := by
  simp [acceptView]
@[simp] theorem render_append (a b : List Seg) : render (a ++ b) = render a ++ render b := by
  simp [render]
@[simp] theorem rejectView_append (a b : List Seg) : rejectView (a ++ b) = rejectView a ++ rejectView b := by
  simp [rejectView]
@[simp] theorem acceptView_append (a b : List Seg) : acceptView (a ++ b) = acceptView a ++ acceptView b := by
  simp [acceptView]

theorem prefix_suffix_split (m t : Str) (hp : m.isPrefixOf t = true) (hs : m.isSuffixOf t = true)
    (hl : 2 * m.length ≤ t.length) :
    m ++ slice t m.length (t.length - m.length) ++ m = t := by
  rw [slice, ← List.drop_take]
  exact wrapped (List.isPrefixOf_iff_prefix.mp hp) (List.isSuffixOf_iff_suffix.mp hs) hl

theorem find?_some_mem {α} (p : α → Bool) (l : List α) (a : α) (h : l.find? p = some a) : p a = true :=
  List.find?_some h

theorem stripBalanced_spec (t : Str) : ∃ m b, stripBalanced t = (m, b, m) ∧ t = m ++ b ++ m := by
  unfold stripBalanced
  split
  · rename_i m hm
    have h := List.find?_some hm
    simp only [shouldStrip, Bool.and_eq_true, decide_eq_true_eq] at h
    exact ⟨m, _, rfl, (prefix_suffix_split m t h.1.1.1 h.1.1.2 h.1.2).symm⟩
  · exact ⟨[], t, rfl, by simp⟩

theorem read_metaSegs (f : Seg → Str) (hn : ∀ s, f (.note s) = []) (c : Str) (i : Nat) (o : Opts) :
    ((metaSegs c i o).map f).flatten = [] := by
  unfold metaSegs
  extract_lets parts
  split
  · rfl
  · exact (List.append_nil _).trans (hn _)

def optSeg (mk : Str → Seg) (s : Str) : List Seg := if s.isEmpty then [] else [mk s]

/-- Shape of one suggestion: the matched text is `pre ++ a ++ suf` with `pre`, `suf` the hoisted markers
(possibly empty) kept as plain text; unless only highlighting, the new text is `pre ++ n ++ suf`. -/
theorem buildMarkup_shape (actual new c : Str) (i : Nat) (o : Opts) :
    ∃ pre a n suf, actual = pre ++ a ++ suf ∧ (o.highlightOnly = false → new = pre ++ n ++ suf) ∧
      buildMarkup actual new c i o =
        .plain pre :: (if o.highlightOnly then [.hl a] else optSeg .del a ++ optSeg .ins n) ++
          .plain suf :: metaSegs c i o := by
  obtain ⟨m, b, hst, hc⟩ := stripBalanced_spec actual
  unfold buildMarkup
  extract_lets st k same q body
  -- the four pieces are `q = (pre, a, suf, n)`; the three cases of their definition follow
  suffices hq : actual = q.1 ++ q.2.1 ++ q.2.2.1 ∧ (o.highlightOnly = false → new = q.1 ++ q.2.2.2 ++ q.2.2.1) from
    ⟨q.1, q.2.1, q.2.2.2, q.2.2.1, hq.1, hq.2, by simp [body, optSeg]⟩
  have hst : st = (m, b, m) := hst
  by_cases h1 : (!st.1.isEmpty && !o.highlightOnly) = true
  · by_cases h2 : same = true
    · -- hoisted on both sides: `(m, b, m, new without its markers)`
      simp only [q, if_pos h1, if_pos h2, k, hst]
      simp only [same, k, hst, Bool.and_eq_true, decide_eq_true_eq] at h2
      exact ⟨hc, fun _ => (prefix_suffix_split m new h2.1.2 h2.2 (Nat.le_of_lt h2.1.1)).symm⟩
    · -- not hoisted: `([], actual, [], new)`
      simp only [q, if_pos h1, if_neg h2]
      exact ⟨by simp, fun _ => by simp⟩
  · -- `(m, b, m, new)`, where `m = []` unless only highlighting
    simp only [q, if_neg h1, hst]
    refine ⟨hc, fun ho => ?_⟩
    have hm : m = [] := by simpa [hst, ho] using h1
    simp [hm]

theorem read_optSeg (f : Seg → Str) (mk : Str → Seg) (h : f (mk []) = []) (s : Str) :
    ((optSeg mk s).map f).flatten = f (mk s) := by
  cases s <;> simp [optSeg, h]

theorem rejectView_buildMarkup (actual new c : Str) (i : Nat) (o : Opts) :
    rejectView (buildMarkup actual new c i o) = actual := by
  obtain ⟨pre, a, n, suf, ha, _, h⟩ := buildMarkup_shape actual new c i o
  rw [h, ha]
  cases o.highlightOnly <;>
    simp [rejectView, Seg.rejected, read_metaSegs Seg.rejected (fun _ => rfl), read_optSeg Seg.rejected .del rfl,
      read_optSeg Seg.rejected .ins rfl]

theorem acceptView_buildMarkup (actual new c : Str) (i : Nat) (o : Opts) (ho : o.highlightOnly = false) :
    acceptView (buildMarkup actual new c i o) = new := by
  obtain ⟨pre, a, n, suf, _, hn, h⟩ := buildMarkup_shape actual new c i o
  rw [h, hn ho, ho]
  simp [acceptView, Seg.accepted, read_metaSegs Seg.accepted (fun _ => rfl), read_optSeg Seg.accepted .del rfl,
    read_optSeg Seg.accepted .ins rfl]

theorem acceptView_buildMarkup_hl (actual new c : Str) (i : Nat) (o : Opts) (ho : o.highlightOnly = true) :
    acceptView (buildMarkup actual new c i o) = actual := by
  obtain ⟨pre, a, n, suf, ha, _, h⟩ := buildMarkup_shape actual new c i o
  rw [h, ha, ho]
  simp [acceptView, Seg.accepted, read_metaSegs Seg.accepted (fun _ => rfl)]

theorem note_mem_buildMarkup (actual new c s : Str) (i : Nat) (o : Opts)
    (h : Seg.note s ∈ buildMarkup actual new c i o) : Seg.note s ∈ metaSegs c i o := by
  obtain ⟨pre, a, n, suf, _, _, hb⟩ := buildMarkup_shape actual new c i o
  rw [hb] at h
  cases ho : o.highlightOnly <;> simpa [ho, optSeg] using h

/-- every match lies left of the previous one: `m.s < m.e ≤ P`, then the next one ends at or before `m.s` -/
def Chain : Nat → List Match → Prop
  | _, [] => True
  | P, m :: ms => m.s < m.e ∧ m.e ≤ P ∧ Chain m.s ms

/-- the preview's loop on strings: each match, from the right, is cut out of the result so far and `g m` put in its place -/
def spliceFold (g : Match → Str) (text : Str) (ms : List Match) : Str :=
  ms.foldl (fun res m => res.take m.s ++ g m ++ res.drop m.e) text

/-- the same loop on `(P, tail)`: the first `P` characters of `text` are still untouched, `tail` is what stands behind them -/
def tailStep (g : Match → Str) (text : Str) (acc : Nat × Str) (m : Match) : Nat × Str :=
  (m.s, g m ++ slice text m.e acc.1 ++ acc.2)

theorem splice_tail (g : Match → Str) (text : Str) (ms : List Match) : ∀ (P : Nat) (tail : Str),
    Chain P ms → P ≤ text.length →
    ms.foldl (fun res m => res.take m.s ++ g m ++ res.drop m.e) (text.take P ++ tail) =
      text.take (ms.foldl (tailStep g text) (P, tail)).1 ++ (ms.foldl (tailStep g text) (P, tail)).2 := by
  induction ms with
  | nil => intro P tail _ _; rfl
  | cons m ms ih =>
    intro P tail hc hP
    obtain ⟨h1, h2, h3⟩ := hc
    simp only [List.foldl_cons]
    rw [splice_step text tail (g m) hP (Nat.le_of_lt h1) h2, ← slice]
    have := ih m.s (g m ++ slice text m.e P ++ tail) h3 (by omega)
    simp only [List.append_assoc] at this ⊢
    rw [this]
    simp [tailStep]

/-- the segment fold seen through a view `v` (a homomorphism) is the tail fold of the viewed markups -/
theorem segFold_view (v : List Seg → Str) (hv : ∀ a b, v (a ++ b) = v a ++ v b)
    (hp : ∀ s l, v (Seg.plain s :: l) = s ++ v l)
    (text : Str) (edits : List MEdit) (o : Opts) (ms : List Match) : ∀ (P : Nat) (segs : List Seg),
    ((ms.foldl (segStep text edits o) (P, segs)).1, v (ms.foldl (segStep text edits o) (P, segs)).2) =
      ms.foldl (tailStep (fun m => v (markupOf text edits o m)) text) (P, v segs) :=
  fun P segs => (List.foldl_hom (fun acc : Nat × List Seg => (acc.1, v acc.2)) (init := (P, segs)) fun acc m => by
    simp only [segStep, tailStep, hv, hp, List.append_assoc]).symm

theorem mem_previewSegs {text : Str} {edits : List MEdit} {o : Opts} {sg : Seg} (h : sg ∈ previewSegs text edits o) :
    (∃ s, sg = Seg.plain s) ∨ ∃ m ∈ keptDesc text edits, sg ∈ markupOf text edits o m := by
  rcases List.mem_cons.mp h with h | h
  · exact .inl ⟨_, h⟩
  refine List.foldlRecOn (motive := fun acc : Nat × List Seg => ∀ sg ∈ acc.2,
    (∃ s, sg = Seg.plain s) ∨ ∃ m ∈ keptDesc text edits, sg ∈ markupOf text edits o m) _ _
    (fun _ h => absurd h List.not_mem_nil) (fun acc ih m hm sg h => ?_) sg h
  -- one step puts the markup of `m` and a plain piece in front
  rcases List.mem_append.mp h with h | h
  · exact .inr ⟨m, hm, h⟩
  · rcases List.mem_cons.mp h with h | h
    · exact .inl ⟨_, h⟩
    · exact ih sg h

theorem slice_append_drop (text : Str) {s e : Nat} (hs : s ≤ e) :
    slice text s e ++ text.drop e = text.drop s := by
  rw [slice, ← List.drop_take]; exact (drop_eq_mid_append_drop text hs).symm

theorem slice_length (text : Str) {s e : Nat} (he : e ≤ text.length) : (slice text s e).length = e - s := by
  rw [slice, List.length_take, List.length_drop]
  exact Nat.min_eq_left (Nat.sub_le_sub_right he s)

theorem spliceFold_id (text : Str) (ms : List Match) (hle : ∀ m ∈ ms, m.s ≤ m.e) :
    spliceFold (fun m => slice text m.s m.e) text ms = text := by
  induction ms with
  | nil => rfl
  | cons m ms ih =>
    rw [spliceFold, List.foldl_cons, List.append_assoc, slice_append_drop text (hle m (by simp)),
      List.take_append_drop]
    exact ih fun x hx => hle x (by simp [hx])

def NonOverlap (a b : Match) : Prop := ¬ (a.s < b.e ∧ a.e > b.s)

theorem nonOverlap_symm {a b : Match} (h : NonOverlap a b) : NonOverlap b a := by
  unfold NonOverlap at *; omega

theorem overlaps_eq_false {occ : List Match} {m : Match} :
    overlaps occ m = false ↔ ∀ o ∈ occ, NonOverlap o m := by
  simp only [overlaps, List.any_eq_false, Bool.and_eq_true, decide_eq_true_eq, NonOverlap]
  exact forall₂_congr fun o _ => by omega

theorem filterOverlap_pairwise (ms : List Match) : ∀ (occ : List Match), occ.Pairwise NonOverlap →
    (filterOverlap ms occ).Pairwise NonOverlap := by
  induction ms with
  | nil => intro occ h; simpa [filterOverlap] using h
  | cons m ms ih =>
    intro occ h
    unfold filterOverlap
    split
    · exact ih occ h
    · rename_i hov
      apply ih
      rw [List.pairwise_append]
      refine ⟨h, List.pairwise_singleton _ _, ?_⟩
      intro a ha b hb
      simp only [List.mem_singleton] at hb
      subst hb
      exact overlaps_eq_false.mp (by simpa using hov) a ha

theorem filterOverlap_mem (ms : List Match) : ∀ (occ : List Match) (x : Match),
    x ∈ filterOverlap ms occ → x ∈ ms ∨ x ∈ occ := by
  induction ms with
  | nil => intro occ x h; exact .inr h
  | cons m ms ih =>
    intro occ x h
    unfold filterOverlap at h
    split at h
    · exact (ih occ x h).imp_left (List.mem_cons_of_mem m)
    · rcases ih _ x h with h | h
      · exact .inl (List.mem_cons_of_mem m h)
      · rcases List.mem_append.mp h with h | h
        · exact .inr h
        · exact .inl (List.mem_singleton.mp h ▸ List.mem_cons_self)

theorem filterOverlap_all (ms : List Match) : ∀ (occ : List Match), (occ ++ ms).Pairwise NonOverlap →
    filterOverlap ms occ = occ ++ ms := by
  induction ms with
  | nil => intro occ _; simp [filterOverlap]
  | cons m ms ih =>
    intro occ h
    unfold filterOverlap
    have hno : overlaps occ m = false :=
      overlaps_eq_false.mpr fun o ho => (List.pairwise_append.mp h).2.2 o ho m (by simp)
    simp only [hno, Bool.false_eq_true, ↓reduceIte]
    have := ih (occ ++ [m]) (by simpa using h)
    simpa using this

theorem chain_of (L : List Match) : ∀ (P : Nat), (∀ x ∈ L, x.s < x.e ∧ x.e ≤ P) →
    L.Pairwise (fun a b => a.s ≥ b.s) → L.Pairwise NonOverlap → Chain P L := by
  induction L with
  | nil => intro _ _ _ _; trivial
  | cons m ms ih =>
    intro P hall hs hn
    have hm := hall m (by simp)
    rw [List.pairwise_cons] at hs hn
    refine ⟨hm.1, hm.2, ih m.s ?_ hs.2 hn.2⟩
    intro x hx
    have hx' := hall x (by simp [hx])
    refine ⟨hx'.1, ?_⟩
    have h1 := hs.1 x hx
    have h2 := hn.1 x hx
    unfold NonOverlap at h2
    omega

/-- what one submitted edit (with its position in the list) contributes to the matches: its match, unless the
range is empty -/
def matchOf (text : Str) (p : MEdit × Nat) : List Match :=
  match findMatch text p.1.target p.1.fz with
  | some (s, e) => if s ≥ e then [] else [⟨s, e, p.2⟩]
  | none => []

theorem matchesFrom_eq (text : Str) (eds : List MEdit) (i : Nat) :
    matchesFrom text eds i = (eds.zipIdx i).flatMap (matchOf text) := by
  induction eds generalizing i with
  | nil => rfl
  | cons ed rest ih => rw [matchesFrom, ih, List.zipIdx_cons, List.flatMap_cons]; rfl

theorem matchOf_some {text : Str} {ed : MEdit} {s e : Nat} (j : Nat)
    (hf : findMatch text ed.target ed.fz = some (s, e)) (h : s < e) : matchOf text (ed, j) = [⟨s, e, j⟩] := by
  simp only [matchOf, hf, ge_iff_le, Nat.not_le.mpr h, if_false]

theorem of_mem_matchOf {text : Str} {ed : MEdit} {j : Nat} {m : Match} (h : m ∈ matchOf text (ed, j)) :
    findMatch text ed.target ed.fz = some (m.s, m.e) ∧ m.s < m.e ∧ m.idx = j := by
  unfold matchOf at h
  split at h
  · rename_i s e hf
    split at h
    · cases h
    · obtain rfl := List.mem_singleton.mp h
      exact ⟨hf, Nat.lt_of_not_le ‹_›, rfl⟩
  · cases h

theorem matchesFrom_spec (text : Str) (eds : List MEdit) (m : Match) (h : m ∈ matchesFrom text eds 0) :
    m.s < m.e ∧ ∃ ed, eds[m.idx]? = some ed ∧ findMatch text ed.target ed.fz = some (m.s, m.e) := by
  rw [matchesFrom_eq, List.mem_flatMap] at h
  obtain ⟨⟨ed, j⟩, hp, hm⟩ := h
  obtain ⟨hf, hlt, rfl⟩ := of_mem_matchOf hm
  exact ⟨hlt, ed, List.mem_zipIdx_iff_getElem?.mp hp, hf⟩

theorem mem_keptDesc {text : Str} {edits : List MEdit} {m : Match} (h : m ∈ keptDesc text edits) :
    m ∈ matchesFrom text edits 0 := by
  have := filterOverlap_mem _ _ _ ((List.mergeSort_perm _ _).mem_iff.mp h)
  simpa using this

theorem keptDesc_chain (text : Str) (edits : List MEdit)
    (hb : ∀ m ∈ matchesFrom text edits 0, m.e ≤ text.length) :
    Chain text.length (keptDesc text edits) := by
  unfold keptDesc
  have hperm := List.mergeSort_perm (filterOverlap (matchesFrom text edits 0) []) (fun a b => decide (a.s ≥ b.s))
  apply chain_of
  · intro x hx
    have h := mem_keptDesc hx
    exact ⟨(matchesFrom_spec text edits x h).1, hb x h⟩
  · have := List.pairwise_mergeSort (le := fun (a b : Match) => decide (a.s ≥ b.s))
      (by intro a b c h1 h2; simp only [decide_eq_true_eq] at *; omega)
      (by intro a b; simp only [Bool.or_eq_true, decide_eq_true_eq]; omega)
      (filterOverlap (matchesFrom text edits 0) [])
    exact this.imp (by intro a b h; simpa using h)
  · exact (hperm.pairwise_iff (fun h => nonOverlap_symm h)).mpr
      (filterOverlap_pairwise _ [] List.Pairwise.nil)

theorem findFrom_spec (pat : Str) : ∀ (s : Str) (i k : Nat), findFrom pat s i = some k →
    ∃ a b, s = a ++ pat ++ b ∧ k = i + a.length := by
  intro s
  induction s with
  | nil =>
    intro i k h
    unfold findFrom at h
    split at h
    · exact ⟨[], [], by simp [List.isEmpty_iff.mp ‹_›], (Option.some.inj h).symm⟩
    · cases h
  | cons c s ih =>
    intro i k h
    unfold findFrom at h
    split at h
    · obtain ⟨r, hr⟩ := List.isPrefixOf_iff_prefix.mp ‹_›
      exact ⟨[], r, hr.symm, (Option.some.inj h).symm⟩
    · obtain ⟨a, b, rfl, rfl⟩ := ih (i + 1) k h
      exact ⟨c :: a, b, rfl, by simp [Nat.add_assoc, Nat.add_comm 1]⟩

theorem expand_bound (text marker : Str) (se : Nat × Nat) (h : se.2 ≤ text.length) :
    (expand text marker se).2 ≤ text.length := by
  rw [expand]
  -- (`split` is slow on the `!=` of the first test)
  by_cases h1 : (count marker (slice text se.1 se.2) % 2 != 0) = true
  · rw [if_pos h1]
    split
    · -- the end moves over a marker that stands in what is left of the text
      rename_i hp
      have := (List.isPrefixOf_iff_prefix.mp hp).length_le
      rw [List.length_drop] at this
      exact Nat.add_le_of_le_sub' h this
    · split <;> exact h
  · rw [if_neg h1]; exact h

theorem safeBounds_bound (text : Str) (s e : Nat) (h : e ≤ text.length) : (safeBounds text s e).2 ≤ text.length := by
  unfold safeBounds expandRound
  repeat apply expand_bound
  exact h

theorem trimTrail_le (st : Str × Nat) (m : Str) : (trimTrail st m).2 ≤ st.2 := by
  unfold trimTrail; split <;> simp

theorem refine_bound (text : Str) (s e : Nat) : (refine text s e).2 ≤ e := by
  unfold refine
  simp only [List.foldl_cons, List.foldl_nil]
  have h1 := trimTrail_le
  exact Nat.le_trans (h1 _ _) (Nat.le_trans (h1 _ _) (Nat.le_trans (h1 _ _) (h1 _ _)))

theorem replaceSmart_length (s : Str) : (replaceSmart s).length = s.length := by simp [replaceSmart]

theorem findMatch_bound (text target : Str) (fz : Option (Nat × Nat)) (s e : Nat)
    (hfz : ∀ a b, fz = some (a, b) → b ≤ text.length) (h : findMatch text target fz = some (s, e)) :
    e ≤ text.length := by
  have key : ∃ a b, b ≤ text.length ∧ (s, e) = safeBounds text a b := by
    unfold findMatch at h
    split at h
    · cases h
    split at h
    · obtain ⟨a, b, rfl, rfl⟩ := findFrom_spec _ _ _ _ ‹_›
      exact ⟨_, _, by simp, (Option.some.inj h).symm⟩
    split at h
    · obtain ⟨a, b, ht, rfl⟩ := findFrom_spec _ _ _ _ ‹_›
      have := congrArg List.length ht
      simp only [replaceSmart_length, List.length_append] at this
      exact ⟨_, _, by omega, (Option.some.inj h).symm⟩
    split at h
    · rename_i a b
      exact ⟨_, _, Nat.le_trans (refine_bound text a b) (hfz a b rfl), (Option.some.inj h).symm⟩
    · cases h
  obtain ⟨a, b, hb, he⟩ := key
  have := safeBounds_bound text a b hb
  rwa [← he] at this

/-- the recorded fuzzy spans end inside the text -/
def FzInBounds (text : Str) (edits : List MEdit) : Prop :=
  ∀ ed ∈ edits, ∀ a b, ed.fz = some (a, b) → b ≤ text.length

theorem matches_inBounds (text : Str) (edits : List MEdit) (h : FzInBounds text edits) :
    ∀ m ∈ matchesFrom text edits 0, m.e ≤ text.length := by
  intro m hm
  obtain ⟨_, ed, he, hf⟩ := matchesFrom_spec text edits m hm
  have hmem : ed ∈ edits := List.mem_of_getElem? he
  exact findMatch_bound text ed.target ed.fz m.s m.e (h ed hmem) hf

theorem spliceFold_kept_id (text : Str) (edits : List MEdit) :
    spliceFold (fun m => slice text m.s m.e) text (keptDesc text edits) = text :=
  spliceFold_id text _ fun m hm => Nat.le_of_lt (matchesFrom_spec text edits m (mem_keptDesc hm)).1

/-- A reading `f` of segments that reads plain text as itself sees the preview as the right-to-left splicing
of the readings `g` of the single suggestions into the text. -/
theorem view_previewSegs (f : Seg → Str) (hp : ∀ s, f (.plain s) = s) (text : Str) (edits : List MEdit)
    (o : Opts) (g : Match → Str) (hg : ∀ m, ((markupOf text edits o m).map f).flatten = g m)
    (h : FzInBounds text edits) :
    ((previewSegs text edits o).map f).flatten = spliceFold g text (keptDesc text edits) := by
  have hc := keptDesc_chain text edits (matches_inBounds text edits h)
  have h1 := segFold_view (fun l => (l.map f).flatten) (by simp) (by simp [hp]) text edits o
    (keptDesc text edits) text.length []
  have h2 := splice_tail g text (keptDesc text edits) text.length [] hc (Nat.le_refl _)
  simp only [hg, List.map_nil, List.flatten_nil] at h1
  simp only [List.take_length, List.append_nil] at h2
  simp only [previewSegs, spliceFold, List.map_cons, List.flatten_cons, hp, h2, ← h1]

theorem tailFold_tiles (g : Match → Str) (text : Str) (ms : List Match) : ∀ (P : Nat) (tail : Str) (es : List Edit),
    Chain P ms → P ≤ text.length → Tiles P (text.drop P) es tail →
    Tiles 0 text (ms.reverse.map (fun m => ⟨m.s, slice text m.s m.e, g m⟩) ++ es)
      (text.take (ms.foldl (tailStep g text) (P, tail)).1 ++ (ms.foldl (tailStep g text) (P, tail)).2) := by
  induction ms with
  | nil =>
    intro P tail es _ hP ht
    have := ht.prepend (pos := 0) (text.take P) (by rw [List.length_take, Nat.zero_add, Nat.min_eq_left hP])
    rwa [List.take_append_drop] at this
  | cons m ms ih =>
    intro P tail es ⟨h1, h2, h3⟩ hP ht
    have hle := Nat.le_of_lt h1
    have he := Nat.le_trans h2 hP
    -- the piece from `m.e` to `P` goes in front of the tiling so far, then the edit of `m` in front of that
    have hr := ht.prepend (pos := m.e) (slice text m.e P) (by rw [slice_length text hP, Nat.add_sub_cancel' h2])
    rw [slice_append_drop text h2] at hr
    have := Tiles.cons (e := ⟨m.s, slice text m.s m.e, g m⟩) [] rfl
      (by rwa [slice_length text he, Nat.add_sub_cancel' hle])
    rw [List.nil_append, slice_append_drop text hle] at this
    simpa [tailStep] using ih m.s _ _ h3 (Nat.le_trans hle he) this

/-- Right-to-left splicing over a chain of matches is the simultaneous replacement by the ascending script. -/
theorem spliceFold_eq_applyEdits (g : Match → Str) (text : Str) (ms : List Match) (hc : Chain text.length ms) :
    spliceFold g text ms = applyEdits text (ms.reverse.map fun m => ⟨m.s, slice text m.s m.e, g m⟩) := by
  have h := splice_tail g text ms text.length [] hc (Nat.le_refl _)
  have t := tailFold_tiles g text ms text.length [] [] hc (Nat.le_refl _) (by simpa using Tiles.nil _ _)
  rw [List.take_length, List.append_nil] at h
  rw [List.append_nil] at t
  exact h.trans t.applyFrom_eq.symm

theorem read_flushPlain (f : Seg → Str) (hp : ∀ s, f (.plain s) = s) (acc : Str) :
    ((flushPlain acc).map f).flatten = acc := by
  unfold flushPlain; split <;> simp_all

/-- joining adjacent plain pieces changes no reading -/
theorem read_normAcc (f : Seg → Str) (hp : ∀ s, f (.plain s) = s) (segs : List Seg) :
    ∀ acc, ((normAcc acc segs).map f).flatten = acc ++ (segs.map f).flatten := by
  induction segs with
  | nil => intro acc; simp [normAcc, read_flushPlain f hp]
  | cons sg rest ih =>
    intro acc
    cases sg <;> simp [normAcc, ih, read_flushPlain f hp, hp]

theorem acceptView_normAcc (segs : List Seg) (acc : Str) : acceptView (normAcc acc segs) = acc ++ acceptView segs :=
  read_normAcc Seg.accepted (fun _ => rfl) segs acc

/-- What the reader uses of the table: a row is `{aa … bb}` with `b` no brace, and on text that starts with the opener
of a row the search returns that row. -/
theorem openers_row (op cl : Str) (mk : Str → Seg) (ho : (op, cl, mk) ∈ openers) :
    (∃ a b, op = ['{', a, a] ∧ cl = [b, b, '}'] ∧ b ≠ '}') ∧
    ∀ x, openers.find? (fun o => o.1.isPrefixOf (op ++ x)) = some (op, cl, mk) := by
  -- the string literals of the table are evaluated here, once, into lists of characters
  simp only [openers, String.reduceToList] at ho ⊢
  simp only [List.mem_cons, List.not_mem_nil, or_false, Prod.mk.injEq] at ho
  rcases ho with ⟨rfl, rfl, rfl⟩ | ⟨rfl, rfl, rfl⟩ | ⟨rfl, rfl, rfl⟩ | ⟨rfl, rfl, rfl⟩
  all_goals exact ⟨⟨_, _, rfl, rfl, by decide⟩, fun x => rfl⟩

theorem no_opener (c : Char) (r : Str) (hc : c ≠ '{') :
    openers.find? (fun o => o.1.isPrefixOf (c :: r)) = none := by
  rw [List.find?_eq_none]
  intro ⟨op, cl, mk⟩ ho
  obtain ⟨⟨a, b, rfl, _⟩, _⟩ := openers_row op cl mk ho
  simp [List.isPrefixOf, hc.symm]

/-- text without '{' is read into `acc`, one unit of fuel a character -/
theorem parseFuel_plain (s : Str) (hs : ∀ c ∈ s, c ≠ '{') (n : Nat) (tail : Str) : ∀ (acc : Str),
    parseFuel (s.length + n) acc (s ++ tail) = parseFuel n (acc ++ s) tail := by
  induction s with
  | nil => intro acc; simp
  | cons c s ih =>
    intro acc
    rw [List.length_cons, Nat.add_right_comm, List.cons_append, parseFuel]
    simp only [no_opener c (s ++ tail) (hs c List.mem_cons_self)]
    rw [ih fun x hx => hs x (List.mem_cons_of_mem _ hx), List.append_assoc]
    rfl

theorem splitAtFirst_closer (d s tail : Str) (hs : ∀ c ∈ s, c ≠ '}') (hd : ∀ c ∈ d, c ≠ '}') :
    splitAtFirst (d ++ ['}']) (s ++ (d ++ ['}']) ++ tail) = some (s, tail) := by
  induction s with
  | nil =>
    cases h : d ++ ['}'] ++ tail with
    | nil => simp at h
    | cons c r =>
      have : (d ++ ['}']).isPrefixOf (c :: r) = true := by
        rw [← h, List.isPrefixOf_iff_prefix]; exact List.prefix_append _ _
      rw [List.nil_append, h, splitAtFirst, if_pos this, ← h, List.drop_left' rfl]
  | cons c s ih =>
    have hnp : ¬ (d ++ ['}']).isPrefixOf (c :: (s ++ (d ++ ['}']) ++ tail)) = true := fun hp => by
      -- the '}' of a match would lie in `c :: s ++ d`
      have e : c :: (s ++ (d ++ ['}']) ++ tail) = (c :: s ++ d) ++ ('}' :: tail) := by simp
      rw [List.isPrefixOf_iff_prefix, e] at hp
      rcases List.mem_append.mp (mem_of_snoc_prefix hp (by simp; omega)) with h | h
      · exact hs _ h rfl
      · exact hd _ h rfl
    rw [List.cons_append, List.cons_append, splitAtFirst, if_neg hnp,
      ih fun x hx => hs x (List.mem_cons_of_mem _ hx)]
    rfl

/-- One block: opener, content without '}', closer.  It takes one unit of fuel. -/
theorem parseFuel_block {op cl : Str} {mk : Str → Seg} (ho : (op, cl, mk) ∈ openers) (s tail : Str)
    (hs : ∀ c ∈ s, c ≠ '}') (n : Nat) (acc : Str) :
    parseFuel (n + 1) acc (op ++ (s ++ cl ++ tail)) =
      (parseFuel n [] tail).map fun segs => flushPlain acc ++ mk s :: segs := by
  obtain ⟨⟨a, b, rfl, rfl, hb⟩, hf⟩ := openers_row op cl mk ho
  have hf := hf (s ++ [b, b, '}'] ++ tail)
  simp only [List.cons_append, List.nil_append] at hf ⊢
  rw [parseFuel]
  simp only [hf, List.drop_succ_cons, List.drop_zero]
  rw [show [b, b, '}'] = [b, b] ++ ['}'] from rfl, splitAtFirst_closer _ s tail hs (by simp [hb])]

theorem Seg.block (sg : Seg) : (∃ s, sg = .plain s) ∨ ∃ op cl mk, (op, cl, mk) ∈ openers ∧
    sg.render = op ++ sg.content ++ cl ∧
    ∀ acc rest, normAcc acc (sg :: rest) = flushPlain acc ++ mk sg.content :: normAcc [] rest := by
  cases sg with
  | plain s => exact .inl ⟨s, rfl⟩
  | del s => exact .inr ⟨"{--".toList, "--}".toList, .del, .head _, rfl, fun _ _ => rfl⟩
  | ins s => exact .inr ⟨"{++".toList, "++}".toList, .ins, .tail _ (.head _), rfl, fun _ _ => rfl⟩
  | hl s => exact .inr ⟨"{==".toList, "==}".toList, .hl, .tail _ (.tail _ (.head _)), rfl, fun _ _ => rfl⟩
  | note s => exact .inr ⟨"{>>".toList, "<<}".toList, .note, .tail _ (.tail _ (.tail _ (.head _))), rfl, fun _ _ => rfl⟩

/-- The rendering of a brace-free segment list reads back as that list (adjacent plain pieces joined), with any fuel
from its length on. -/
theorem parseFuel_render (segs : List Seg) (hb : BraceFree segs) : ∀ (n : Nat) (acc : Str),
    parseFuel ((render segs).length + n) acc (render segs) = some (normAcc acc segs) := by
  induction segs with
  | nil =>
    intro n acc
    cases n <;> simp [parseFuel, normAcc]
  | cons sg rest ih =>
    intro n acc
    have hrest : BraceFree rest := fun x hx => hb x (List.mem_cons_of_mem _ hx)
    have hsg := hb sg List.mem_cons_self
    rw [render_cons, List.length_append, Nat.add_assoc]
    rcases sg.block with ⟨s, rfl⟩ | ⟨op, cl, mk, ho, hr, hnorm⟩
    · rw [Seg.render_plain, parseFuel_plain s (fun c hc => (hsg c hc).1), normAcc]
      exact ih hrest _ _
    · -- the block takes one unit of the fuel that its delimiters brought
      obtain ⟨⟨a, b, rfl, _⟩, _⟩ := openers_row op cl mk ho
      have hpos : 0 < sg.render.length := by rw [hr]; exact Nat.succ_pos _
      obtain ⟨k, hk⟩ := Nat.exists_eq_add_of_lt
        (Nat.lt_of_le_of_lt (Nat.le_add_right (render rest).length n) (Nat.lt_add_of_pos_left hpos))
      rw [hk, hr, hnorm, List.append_assoc, List.append_assoc, ← List.append_assoc sg.content,
        parseFuel_block ho _ _ (fun c hc => (hsg c hc).2), ih hrest k []]
      rfl

theorem parse_render (segs : List Seg) (hb : BraceFree segs) : parse (render segs) = some (normAcc [] segs) :=
  parseFuel_render segs hb 0 []

end Adeu.Markup
